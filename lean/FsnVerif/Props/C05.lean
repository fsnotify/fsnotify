import FsnVerif.Proofs.ProtoLemmas
import FsnVerif.Proofs.SkeletonTie
/-!
# C05 — Control operations never block on event consumption; Close always returns

Over the protocol model (`Model/Proto`): in **every reachable state** — events pending in a full
buffer, the reader parked in a send on Errors or Events, other goroutines holding the mutex,
marking the watcher closed or closing the file, any Events capacity — a pending Add / Remove /
WatchList / Close call returns after finitely many **system steps only** (no consumer step is
ever needed). The run is given by an explicit strategy (`Proto.next`), not found by search; the
statement for all 5632 invariant-compatible states is a kernel-evaluated table lifted to all
states through the inductive invariant.
Runtime assumptions (trusted base): a scheduler fair to runnable goroutines and a starvation-free
`sync.Mutex` turn "there is a system-only run" into "the call returns"; `File.Close` wakes a
blocked `Read`.
Tie: the regenerated skeleton of every protocol function equals the reviewed expectation the
model was written against, including *which sends can happen while `mu` is held*.
-/
namespace C05
open Proto

/-- **control calls make progress without the consumer** -/
theorem ctl_progress (s : S) (h : Reach s) : ∃ s', SysRun s s' ∧ s'.c = .returned :=
  reach_sound 16 s (chk_of_inv h.inv).2.1

/-- the reader never sits in a send it cannot leave while holding the mutex: an error can be
pending under the lock only when the watcher is already marked closed, and then the `done` case
of the select fires -/
theorem lock_not_held_while_blocked (s : S) (h : Reach s) :
    (s.r = .errSendLocked → s.doneClosed = true) ∧ (s.r = .evSend ∨ s.r = .errSend → s.mu ≠ .reader) := by
  have hp := h.invP
  refine ⟨fun hr => hp.fd_done (hp.strict rfl hr), fun hr hmu => ?_⟩
  -- the reader holds the mutex only inside `handleEvent`
  rcases hr with hr | hr <;> rcases hp.mu_reader.mp hmu with h1 | h1 <;> rw [hr] at h1 <;> cases h1

/-- a Close on a watcher that is already marked closed returns at once (idempotence; any number
of concurrent Close calls are "me" plus "others") -/
theorem close_idempotent_returns (s : S) (hc : s.c = .cCrit) (hd : s.doneClosed = true) :
    ∃ s', step true s .mCCrit = some s' ∧ s'.c = .returned :=
  ⟨_, (if_pos hc).trans (if_pos hd), rfl⟩

/-- the only sends that can execute while a mutex is held (regenerated from the source):
`handleEvent → sendError` (MOVE_SELF clean-up error; recursive-watch registration error) and
`AddWith → sendEvent`, which needs the option `withCreate` that nothing calls -/
theorem sends_while_locked_sites :
    Gen.sendsWhileLocked = [("inotify.AddWith", "sendEvent", "Events", "mu"),
      ("inotify.handleEvent", "sendError", "Errors", "mu"), ("inotify.handleEvent", "sendError", "Errors", "mu")] ∧
    Gen.withCreateCallers = [] := by
  constructor
  · exact SkeletonTie.sendsWhileLocked_ok.trans rfl
  · exact SkeletonTie.withCreate_dead

theorem protocol_skeleton_ok :
    SkeletonTie.protocolFns.all (fun n => SkeletonTie.viewOf n (SkeletonTie.lookupFn n Gen.skeleton) == SkeletonTie.viewOf n (SkeletonTie.expectedOf n) &&
      (SkeletonTie.expectedOf n).isSome) = true := SkeletonTie.protocol_skeleton_ok

/-! ### the pre-repair protocol (finding F1): an error pending under the lock while the file is open -/

/-- all states reachable from `s` by system steps, by breadth (fuel-bounded; `blocked_witness` checks that its fuel is enough: one more round adds nothing) -/
def sysClosure (strict : Bool) : Nat → List S → List S
  | 0, acc => acc
  | n + 1, acc =>
    let nxt := acc.flatMap fun s => allLabels.filterMap fun l => if l.isSystem then step strict s l else none
    sysClosure strict n (nxt.foldl (fun a s => if a.contains s then a else a ++ [s]) acc)

/-- reader parked in `sendError` inside `handleEvent` (mutex held), file open, nobody receiving,
a Close pending -/
def blocked : S :=
  { r := .errSendLocked, c := .cLock, mu := .reader, doneClosed := false, fdOpen := true, respClosed := false,
    erClosed := false, evClosed := false, evFull := false, dataReady := false }

/-- it is reachable in the pre-repair protocol … -/
theorem blocked_reachable_before_fix :
    ([Label.kData, .rTop, .rReadRec, .rLock, .rHandleErr].foldl (fun s l => s.bind (step false · l)) (some (init .cLock)))
      = some blocked := by decide

/-- … and from it **no** sequence of system steps lets Close (or any other call) return: only a
receive from Errors releases the mutex. With the repaired protocol the state is unreachable. -/
theorem blocked_witness : ((sysClosure false 6 [blocked]).all fun s => decide (s.c ≠ .returned)) = true ∧
    (sysClosure false 6 [blocked]).length = (sysClosure false 5 [blocked]).length := by decide +kernel

theorem blocked_excluded_after_fix : Inv true blocked = false := by decide

end C05
