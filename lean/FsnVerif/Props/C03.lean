import FsnVerif.Proofs.InotifyLemmas
import FsnVerif.Proofs.RingLemmas
/-!
# C03 — Order (model side)

The events of a batch are the per-record events concatenated in record order (each record yields at
most one); a paired move is reported as Rename(old) immediately followed by Create(new ← old).
Partial: the kernel queue's own order (K2) and Go channel FIFO (language spec; a channel as a FIFO buffer is `Model/Chan`,
`C14.chan_fifo`) are assumed.
The fact that only the reader goroutine sends on Events is a regenerated skeleton fact (`C06.single_sender_single_closer`).
-/
namespace C03
open Fsn

/-- events come out in record order: first record's event (if any), then the rest's -/
theorem events_in_record_order (l : Lib) (env : Env) (r : Raw) (rs : List Raw)
    (hp : (l.stepRecord env r).out.panic = false) :
    (l.stepRecords env (r :: rs)).2.2.1.events =
      (l.stepRecord env r).out.events ++
      ((l.stepRecord env r).lib.stepRecords (l.stepRecord env r).env rs).2.2.1.events :=
  stepRecords_cons_events l env r rs hp

/-- the event sequence of a batch split anywhere is the concatenation of the parts' sequences -/
theorem order_preserved_across_batches (l : Lib) (env : Env) (rs1 rs2 : List Raw) (hp : noPanic l env rs1) :
    (l.stepRecords env (rs1 ++ rs2)).2.2.1.events =
      (l.stepRecords env rs1).2.2.1.events ++
      ((l.stepRecords env rs1).1.stepRecords (l.stepRecords env rs1).2.1 rs2).2.2.1.events :=
  congrArg Out.events (stepRecords_append l env rs1 rs2 hp).2.2

theorem find_after_store (r : Ring) (h : r.WF) (c : BitVec 32) (p : Path) (hfresh : ∀ s ∈ r.slots, s.1 ≠ c) :
    (r.store c p).find c = p := by
  apply Ring.find_of_unique
  · exact List.mem_set (h.1 ▸ h.2) _
  · intro s hs hsc
    rcases List.mem_or_eq_of_mem_set hs with h1 | h1
    · exact absurd hsc (hfresh s h1)
    · exact h1

/-- the pair for any two plain masks of which the first has the move-out bit and the second the move-in bit only:
the move-out stores `(cookie, old name)` in the ring, the move-in finds it -/
theorem rename_pair (l : Lib) (env : Env) (w1 w2 : Watch) (r1 r2 : Raw)
    (hw1 : alLookup r1.wd l.wdT = some w1) (hw2 : alLookup r2.wd l.wdT = some w2)
    (hp1 : plainMask r1.mask = true) (hp2 : plainMask r2.mask = true) (hf1 : test r1.mask IN_MOVED_FROM = true)
    (hf2 : test r2.mask IN_MOVED_FROM = false) (ht2 : test r2.mask IN_MOVED_TO = true)
    (hc : r1.cookie ≠ 0#32) (hcc : r2.cookie = r1.cookie) (hring : l.ring.WF) (hfresh : ∀ s ∈ l.ring.slots, s.1 ≠ r1.cookie) :
    (l.stepRecords env [r1, r2]).2.2.1.events =
      [{ name := nameOf w1 r1, op := inotifyNewEventOp r1.mask },
       { name := nameOf w2 r2, op := inotifyNewEventOp r2.mask, renamedFrom := nameOf w1 r1 }] := by
  have hcb : (r1.cookie != 0#32) = true := by simpa using hc
  obtain ⟨h1, s1⟩ := handle_plain l env r1 w1 hw1 hp1
  obtain ⟨h2, s2⟩ := handle_plain (l.newEvent (nameOf w1 r1) r1.mask r1.cookie).1 env r2 w2 (by rw [newEvent_eq]; exact hw2) hp2
  simp only [Lib.stepRecords, s1, h1, s2, h2, Bool.false_eq_true, if_false, Out.append, List.append_nil, List.singleton_append]
  simp only [newEvent_eq, hcc, hcb, hf1, hf2, ht2, Bool.and_self, Bool.and_false, Bool.false_and, Bool.not_true,
    Bool.not_false, Bool.false_eq_true, if_true, if_false, find_after_store _ hring _ _ hfresh]

/-- **rename pair**: `MOVED_FROM c a` on one listed watch immediately followed by `MOVED_TO c b`
on a listed watch yields exactly `Rename a`, `Create b ← a`, adjacent and in that order (cookie
non-zero and not already in the ring: K5) -/
theorem rename_pair_adjacent (l : Lib) (env : Env) (w1 w2 : Watch) (wd1 wd2 : Nat) (c : BitVec 32)
    (n1 n2 : List Nat) (len1 len2 : Nat)
    (hw1 : alLookup wd1 l.wdT = some w1) (hw2 : alLookup wd2 l.wdT = some w2)
    (hc : c ≠ 0#32) (hring : l.ring.WF) (hfresh : ∀ s ∈ l.ring.slots, s.1 ≠ c) :
    let r1 : Raw := ⟨wd1, IN_MOVED_FROM, c, len1, n1⟩
    let r2 : Raw := ⟨wd2, IN_MOVED_TO, c, len2, n2⟩
    (l.stepRecords env [r1, r2]).2.2.1.events =
      [{ name := nameOf w1 r1, op := Rename }, { name := nameOf w2 r2, op := Create, renamedFrom := nameOf w1 r1 }] := by
  intro r1 r2
  have h := rename_pair l env w1 w2 r1 r2 hw1 hw2 (show plainMask IN_MOVED_FROM = true by decide)
    (show plainMask IN_MOVED_TO = true by decide) (show test IN_MOVED_FROM IN_MOVED_FROM = true by decide)
    (show test IN_MOVED_TO IN_MOVED_FROM = false by decide) (show test IN_MOVED_TO IN_MOVED_TO = true by decide)
    hc rfl hring hfresh
  rwa [show inotifyNewEventOp r1.mask = Rename from (by decide : inotifyNewEventOp IN_MOVED_FROM = Rename),
    show inotifyNewEventOp r2.mask = Create from (by decide : inotifyNewEventOp IN_MOVED_TO = Create)] at h

end C03
