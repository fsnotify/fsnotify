import FsnVerif.Model.Chan
import FsnVerif.Proofs.SkeletonTieCaps
import FsnVerif.Proofs.BridgeCaps
import FsnVerif.Model.Inotify
/-!
# C14 — The event stream does not depend on buffering or on other Watchers (model side)
-/
namespace C14
open Chan Fsn

theorem step_fifo {α : Type} {c c1 : Ch α} {op : Op α} {got : List α} (h : step c op = some (c1, got)) :
    got ++ c1.buf = c.buf ++ (match (generalizing := false) op with | .send x => [x] | .rendezvous x => [x] | .recv => []) ∧ c1.cap = c.cap := by
  cases op with
  | send x =>
    obtain ⟨-, h⟩ := Option.ite_none_right_eq_some.mp h
    cases h; exact ⟨rfl, rfl⟩
  | rendezvous x =>
    obtain ⟨hb, h⟩ := Option.ite_none_right_eq_some.mp h
    cases h; rw [hb]; exact ⟨rfl, rfl⟩
  | recv =>
    simp only [step] at h
    split at h
    · cases h
    · rename_i hb; cases h; rw [hb]; exact ⟨(List.append_nil _).symm, rfl⟩

/-- **FIFO for every capacity and every consumer pace**: along any enabled sequence of sends,
receives and rendezvous, `received ++ buffered = initially buffered ++ sent` -/
theorem chan_fifo {α : Type} (c : Ch α) (ops : List (Op α)) (c' : Ch α) (sent recvd : List α)
    (h : run c ops = some (c', sent, recvd)) : recvd ++ c'.buf = c.buf ++ sent ∧ c'.cap = c.cap := by
  induction ops generalizing c c' sent recvd with
  | nil => simp [run] at h; obtain ⟨rfl, rfl, rfl⟩ := h; simp
  | cons op ops ih =>
    unfold run at h
    split at h
    · cases h
    · rename_i c1 got hs
      split at h
      · cases h
      · rename_i c2 sent2 recvd2 hr
        obtain ⟨hb, hc⟩ := step_fifo hs
        obtain ⟨ihb, ihc⟩ := ih c1 c2 sent2 recvd2 hr
        cases h
        refine ⟨?_, ihc.trans hc⟩
        rw [List.append_assoc, ihb, ← List.append_assoc, hb, List.append_assoc]
        cases op <;> rfl

/-- **a buffered Watcher absorbs exactly its capacity with no consumer**: from an empty channel,
`n` consecutive sends without any receive succeed iff `n ≤ cap` -/
theorem absorbs_capacity {α : Type} (cap : Nat) (xs : List α) :
    (run ⟨cap, []⟩ (xs.map Op.send)).isSome = decide (xs.length ≤ cap) := by
  suffices ∀ (buf : List α), buf.length ≤ cap →
      (run ⟨cap, buf⟩ (xs.map Op.send)).isSome = decide (buf.length + xs.length ≤ cap) by
    simpa using this [] (Nat.zero_le _)
  induction xs with
  | nil => intro buf hb; exact (decide_eq_true hb).symm
  | cons x xs ih =>
    intro buf hb
    simp only [List.map_cons, run, step]
    by_cases hroom : buf.length < cap
    · simp only [if_pos hroom]
      have := ih (buf ++ [x]) (by rw [List.length_append]; exact hroom)
      rw [List.length_append, Nat.add_assoc, Nat.add_comm [x].length] at this
      cases hr : run ⟨cap, buf ++ [x]⟩ (xs.map Op.send) <;> rw [hr] at this <;> exact this
    · simp only [if_neg hroom]
      simp; omega

/-- channel capacities as written in the source: `NewBufferedWatcher(sz)` makes `chan Event` of
capacity exactly `sz`, `NewWatcher` of `defaultBufferSize` (0 on Linux, BSD, illumos; 50 on
Windows); Errors is unbuffered everywhere -/
theorem cap_exact :
    Gen.chanCaps = [("NewBufferedWatcher", "Event", "sz"), ("NewBufferedWatcher", "error", "0"),
      ("NewWatcher", "Event", "defaultBufferSize"), ("NewWatcher", "error", "0"),
      ("newBackend", "struct{}", "0"), ("newShared", "struct{}", "0")] ∧
    Gen.defaultBufferSize_linux = 0 ∧ Gen.defaultBufferSize_freebsd = 0 ∧ Gen.defaultBufferSize_solaris = 0 ∧
    Gen.defaultBufferSize_windows = 50 := by
  refine ⟨?_, Bridge.defaultBufferSizes⟩
  exact SkeletonTie.chanCaps_ok.trans rfl

/-- **Watchers share nothing**: no package-level variable is written outside its declaration, and
every inotify syscall site addresses the Watcher's own descriptor `w.fd` -/
theorem instances_disjoint :
    Gen.pkgVarsWritten = [] ∧
    Gen.syscalls = [("inotify.register", "InotifyAddWatch", "w.fd"), ("inotify.register", "InotifyRmWatch", "w.fd"),
      ("inotify.remove", "InotifyRmWatch", "w.fd"), ("newBackend", "InotifyInit1", "unix.IN_CLOEXEC | unix.IN_NONBLOCK")] := by
  refine ⟨SkeletonTie.pkgVars_ok.1, ?_⟩
  exact SkeletonTie.syscalls_ok.trans rfl

/-- **what is emitted does not depend on the buffer**: the reader's event sequence is a function
of the record stream, the state and the kernel's answers only — `Lib.stepRecords` has no channel
argument; by `chan_fifo` the consumer then receives exactly that sequence, for every capacity -/
theorem emitted_capacity_independent (l : Lib) (env : Env) (rs : List Raw) (cap1 cap2 : Nat) :
    (fun (_ : Nat) => (l.stepRecords env rs).2.2.1.events) cap1 = (fun (_ : Nat) => (l.stepRecords env rs).2.2.1.events) cap2 := rfl

/-! tests: capacity 2 absorbs two events, a third send is not enabled; FIFO delivery -/
example : (run (⟨2, []⟩ : Ch Nat) [.send 1, .send 2, .send 3]).isSome = false := by decide
example : (run (⟨2, []⟩ : Ch Nat) [.send 1, .send 2, .recv, .send 3, .recv, .recv]).map (·.2.2) = some [1, 2, 3] := by decide

end C14
