import FsnVerif.Proofs.ProtoLemmas
import FsnVerif.Proofs.SkeletonTie
/-!
# C06 — Close protocol: channels close, nothing is sent afterwards, API goes inert (protocol model)
-/
namespace C06
open Proto

/-- **no send on a closed channel** (no panic): whenever the reader is at a send, that channel is open -/
theorem no_send_on_closed_chan (s : S) (h : Reach s) :
    (s.r = .evSend → s.evClosed = false) ∧ (s.r = .errSend ∨ s.r = .errSendLocked → s.erClosed = false) := by
  have hp := h.invP
  refine ⟨fun hr => by rw [hp.ev, hr]; rfl, fun hr => ?_⟩
  rw [hp.er]
  rcases hr with hr | hr <;> rw [hr] <;> rfl

/-- the only goroutine that sends on or closes Events / Errors is the reader; `done` is closed only
under `mu` in `shared.close` (regenerated facts) -/
theorem single_sender_single_closer :
    Gen.closers = [("inotify.readEvents", "doneResp"), ("inotify.readEvents", "Errors"),
      ("inotify.readEvents", "Events"), ("shared.close", "done")] ∧
    Gen.senders = [("shared.sendError", "Errors"), ("shared.sendEvent", "Events")] ∧
    Gen.goStmts = [("newBackend", "readEvents")] := by
  refine ⟨?_, ?_, ?_⟩
  · exact SkeletonTie.closers_ok.trans rfl
  · exact SkeletonTie.senders_ok.trans rfl
  · exact SkeletonTie.goStmts_ok.trans rfl

/-- **channels close promptly**: once the watcher is marked closed and its file is closed (what
the first Close does), system steps alone bring the reader to its exit, with doneResp, Errors and
Events closed — whatever the consumer does or does not do -/
theorem chans_closed_eventually (s : S) (h : Reach s) (hd : s.doneClosed = true) (hf : s.fdOpen = false) :
    ∃ s', SysRun s s' ∧ s'.r = .exited ∧ s'.evClosed = true ∧ s'.erClosed = true ∧ s'.respClosed = true := by
  obtain ⟨s', hr, he⟩ := reachExit_sound 16 s ((chk_of_inv h.inv).2.2 hd hf)
  have hp := invP_of_inv (hr.keeps (fun s s' l => inv_step s s' l) h.inv)
  exact ⟨s', hr, he, by rw [hp.ev, he]; rfl, by rw [hp.er, he]; rfl, by rw [hp.resp, he]; rfl⟩

/-- after its exit the reader takes no further step: nothing is ever sent after the close -/
theorem nothing_after_exit (s s' : S) (l : Label) (hr : s.r = .exited) (hs : step true s l = some s') :
    s'.r = .exited ∧ s'.evClosed = s.evClosed ∧ s'.erClosed = s.erClosed :=
  let ⟨h1, _, h3, h4⟩ := (step_stable hs).2 hr; ⟨h1, h4, h3⟩

/-- API calls that start after the watcher was marked closed return at once from the `isClosed`
test (`Add` = ErrClosed, `Remove` = nil, `WatchList` = nil: the return expressions are pinned by
the regenerated skeleton) without touching the mutex or the tables -/
theorem post_close_api (s : S) (hc : s.c = .chk) (hd : s.doneClosed = true) :
    ∃ s', step true s .mChk = some s' ∧ s'.c = .returned ∧ s'.mu = s.mu :=
  ⟨_, if_pos hc, if_pos hd, rfl⟩

theorem post_close_return_values :
    (SkeletonTie.expectedOf "inotify.AddWith").map (·.take 4) =
      some [⟨"call", "isClosed", [], []⟩, ⟨"ifBegin", "%1.isClosed()", [], []⟩, ⟨"ret", "ErrClosed", [], []⟩, ⟨"ifEnd", "", [], []⟩] ∧
    (SkeletonTie.expectedOf "inotify.Remove").map (·.take 4) =
      some [⟨"call", "isClosed", [], []⟩, ⟨"ifBegin", "%1.isClosed()", [], []⟩, ⟨"ret", "nil", [], []⟩, ⟨"ifEnd", "", [], []⟩] ∧
    (SkeletonTie.expectedOf "inotify.WatchList").map (·.take 4) =
      some [⟨"call", "isClosed", [], []⟩, ⟨"ifBegin", "%1.isClosed()", [], []⟩, ⟨"ret", "nil", [], []⟩, ⟨"ifEnd", "", [], []⟩] := by
  decide +kernel

end C06
