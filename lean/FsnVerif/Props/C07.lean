import FsnVerif.Proofs.ProtoLemmas
import FsnVerif.Proofs.SkeletonTie
import FsnVerif.Proofs.SkeletonTieLocks
import FsnVerif.Props.C12
/-!
# C07 — Thread safety (protocol model + lock facts)

* In every reachable state of the protocol at most one thread is inside a critical section of
  `mu` (`critical_sections_serial`) — the table accesses of different goroutines never overlap,
  so each API call takes effect atomically at its critical section (its linearization point; the
  sequential semantics of that section is `Model/Inotify`, proved to keep the tables consistent
  in C04/C12).
* Every access to the watch tables is made while `mu` is held, every access to the cookie ring
  while `cookiesMu` is held: regenerated lock facts (`all_table_access_under_mu`).
Partial: data-race freedom of the *binary* (Go memory model) is evidenced by `-race` stress runs
and a linearizability search over recorded histories in the correspondence stage, not proved.
-/
namespace C07
open Proto

theorem critical_sections_serial (s : S) (h : Reach s) :
    ¬ ((s.r = .inHandle ∨ s.r = .errSendLocked) ∧ (s.c = .crit ∨ s.c = .cCrit)) ∧
    ((s.r = .inHandle ∨ s.r = .errSendLocked) → s.mu = .reader) ∧ ((s.c = .crit ∨ s.c = .cCrit) → s.mu = .me) := by
  have hp := h.invP
  exact ⟨fun ⟨hr, hc⟩ => Holder.noConfusion ((hp.mu_reader.mpr hr).symm.trans (hp.mu_me.mpr hc)), hp.mu_reader.mpr, hp.mu_me.mpr⟩

/-- the functions that touch the watch tables without taking `mu` themselves are exactly the
unexported helpers — each is only called with `mu` held (otherwise its caller would be listed too);
no exported method, and neither `readEvents` nor `handleEvent`, is among them -/
theorem all_table_access_under_mu :
    Gen.needMuFromCaller = ["inotify.AddWith$add", "inotify.isRecursive", "inotify.register", "inotify.remove",
      "watches.add", "watches.byPath", "watches.byWd", "watches.len", "watches.remove", "watches.removePath",
      "watches.updatePath"] ∧
    Gen.needCookiesMuFromCaller = [] :=
  ⟨SkeletonTie.needMu_ok.1.trans rfl, SkeletonTie.needMu_ok.2.trans rfl⟩

/-- of two concurrent Remove calls for one listed path exactly one finds it: whichever enters its
critical section first erases both table entries, so the second sees `ErrNonExistentWatch`
(sequential model; the sections are serial by `critical_sections_serial`) -/
theorem two_removes_one_wins (k : Fsn.Path) (pathT : List (Fsn.Path × Nat)) :
    Fsn.alLookup k (Fsn.alErase k pathT) = none := Fsn.alLookup_erase_same k pathT

/-- **no syscall on a closed descriptor** (finding F6, repaired): a call is inside its critical
section (where `inotify_add_watch` / `inotify_rm_watch` are issued) only while the inotify file is
open and the watcher is not marked closed — Close cannot mark it closed while the section runs,
and the section is not entered once it is marked -/
theorem no_syscall_on_closed_fd (s : S) (h : Reach s) (hc : s.c = .crit) : s.fdOpen = true ∧ s.doneClosed = false :=
  h.invP.crit_open hc

/-- before the repair the closed test was made only before `Lock()`: the unrepaired transition
(`crit` entered whatever `done` says) reaches a critical section on a closed descriptor -/
theorem syscall_on_closed_fd_before_fix :
    let s0 : S := { (init .chk) with c := .lockWait }      -- the call passed its closed test …
    let s1 := ([Label.oLock, .oMark, .oUnlock, .oFile].foldl (fun s l => s.bind (step true · l)) (some s0))  -- … Close ran …
    s1.map (fun s => (s.c, s.mu, s.fdOpen, s.doneClosed)) = some (.lockWait, .free, false, true) := by decide

end C07

/-!
## Linearizability of Add / Remove / WatchList / record handling (interleaving model)

Any number of goroutines issue API calls; the reader handles records. A call is *invoked*, at some
later moment runs its critical section — one atomic step, the sequential model of `Model/Inotify`
applied to the shared tables (that the sections are serial and that every table access is inside one
are `critical_sections_serial` and `all_table_access_under_mu` above) — and at some later moment
*returns* the value computed there. Linearizable means: for EVERY interleaving, the calls in the order of
their critical sections form a sequential history that (1) produces exactly the values the calls
returned and the final tables, and (2) respects real time: a call that returned before another was
invoked comes first.
-/
namespace C07.Lin
open Fsn

/-- an API call or a batch of records, with the kernel's answers it will get -/
structure Call where
  op : C12.Op
  env : Env

inductive Phase
  | idle
  | pending (c : Call)
  | done (c : Call) (out : Out)

structure Sys where
  lib : Lib := {}
  ph : Nat → Phase := fun _ => .idle

inductive Step
  | inv (t : Nat) (c : Call)
  | crit (t : Nat)
  | ret (t : Nat)

def upd (f : Nat → Phase) (t : Nat) (p : Phase) : Nat → Phase := fun x => if x = t then p else f x

def step (s : Sys) : Step → Option Sys
  | .inv t c => match s.ph t with
    | .idle => some { s with ph := upd s.ph t (.pending c) }
    | _ => none
  | .crit t => match s.ph t with
    | .pending c => some { lib := (C12.apply s.lib c.env c.op).1, ph := upd s.ph t (.done c (C12.apply s.lib c.env c.op).2) }
    | _ => none
  | .ret t => match s.ph t with
    | .done _ _ => some { s with ph := upd s.ph t .idle }
    | _ => none

def run : Sys → List Step → Option Sys
  | s, [] => some s
  | s, x :: xs => match step s x with
    | some s' => run s' xs
    | none => none

/-- the sequential history: the calls in the order of their critical sections, with the value each computed -/
def linOf : Sys → List Step → List (Call × Out)
  | _, [] => []
  | s, x :: xs =>
    match step s x with
    | none => []
    | some s' =>
      match x, s.ph (match x with | .inv t _ => t | .crit t => t | .ret t => t) with
      | .crit _, .pending c => (c, (C12.apply s.lib c.env c.op).2) :: linOf s' xs
      | _, _ => linOf s' xs

def seqRun : Lib → List (Call × Out) → Lib × Bool
  | l, [] => (l, true)
  | l, (c, out) :: rest =>
    let r := C12.apply l c.env c.op
    let tail := seqRun r.1 rest
    (tail.1, decide (r.2 = out) && tail.2)

theorem step_some {s s1 : Sys} {x : Step} (h : step s x = some s1) :
    match (generalizing := false) x with
    | .inv t c => s.ph t = .idle ∧ s1 = { s with ph := upd s.ph t (.pending c) }
    | .crit t => ∃ c, s.ph t = .pending c ∧
        s1 = { lib := (C12.apply s.lib c.env c.op).1, ph := upd s.ph t (.done c (C12.apply s.lib c.env c.op).2) }
    | .ret t => ∃ c o, s.ph t = .done c o ∧ s1 = { s with ph := upd s.ph t .idle } := by
  cases x <;> simp only [step] at h <;> split at h <;> cases h
  · exact ⟨‹_›, rfl⟩
  · exact ⟨_, ‹_›, rfl⟩
  · exact ⟨_, _, ‹_›, rfl⟩

theorem upd_apply (f : Nat → Phase) (t : Nat) (p : Phase) (x : Nat) :
    upd f t p x = f x ∨ x = t ∧ upd f t p x = p := by
  unfold upd; split <;> simp [*]

theorem run_cons {s s' : Sys} {x : Step} {xs : List Step} (h : run s (x :: xs) = some s') :
    ∃ s1, step s x = some s1 ∧ run s1 xs = some s' := by
  simp only [run] at h
  split at h
  · exact ⟨_, ‹_›, h⟩
  · cases h

/-- the sequential run of the history absorbs one step of the interleaving: only a critical section
adds a call, and the sequential run computes for it what the section computed -/
theorem seqRun_linOf_cons {s s1 : Sys} {x : Step} (h : step s x = some s1) (xs : List Step) :
    seqRun s.lib (linOf s (x :: xs)) = seqRun s1.lib (linOf s1 xs) := by
  cases x with
  | inv t c => obtain ⟨_, rfl⟩ := step_some h; simp only [linOf, h]
  | ret t => obtain ⟨_, _, _, rfl⟩ := step_some h; simp only [linOf, h]
  | crit t => obtain ⟨c, hp, rfl⟩ := step_some h; simp [linOf, h, hp, seqRun]

/-- **(1) sequential legality**: executed one after the other in the order of their critical sections,
the calls compute exactly the values they returned, and leave exactly the final tables -/
theorem lin_legal (s : Sys) (tr : List Step) (s' : Sys) (h : run s tr = some s') :
    seqRun s.lib (linOf s tr) = (s'.lib, true) := by
  induction tr generalizing s with
  | nil => cases h; rfl
  | cons x xs ih =>
    obtain ⟨s1, hs, h⟩ := run_cons h
    rw [seqRun_linOf_cons hs]; exact ih s1 h

/-- a call's critical section lies between its invocation and its return: a thread that is idle has
no section pending, so the section of a call invoked now comes later in the trace; a thread that
returns has run its section earlier -/
theorem crit_after_inv (s : Sys) (t : Nat) (c : Call) (s1 : Sys) (h : step s (.inv t c) = some s1) :
    s1.ph t = .pending c := by
  obtain ⟨_, rfl⟩ := step_some h; simp [upd]

theorem ret_after_crit (s : Sys) (t : Nat) (s1 : Sys) (h : step s (.ret t) = some s1) :
    ∃ c out, s.ph t = .done c out :=
  let ⟨c, o, hp, _⟩ := step_some h; ⟨c, o, hp⟩

/-- only a critical-section step of thread `t` turns `t`'s pending call into a finished one, and only
an invocation makes it pending: **(2) real-time order** — between a call's `inv` and its `ret` there is
exactly one `crit` of that thread, hence a call that returned before another was invoked has its
section earlier in the trace (and earlier in `linOf`) -/
theorem phase_machine (s : Sys) (x : Step) (s1 : Sys) (h : step s x = some s1) (t : Nat) :
    (s1.ph t = s.ph t) ∨
    (∃ c, x = .inv t c ∧ s.ph t = .idle ∧ s1.ph t = .pending c) ∨
    (∃ c, x = .crit t ∧ s.ph t = .pending c ∧ s1.ph t = .done c (C12.apply s.lib c.env c.op).2) ∨
    (∃ c o, x = .ret t ∧ s.ph t = .done c o ∧ s1.ph t = .idle) := by
  cases x with
  | inv t' c =>
    obtain ⟨hp, rfl⟩ := step_some h
    rcases upd_apply s.ph t' (.pending c) t with he | ⟨rfl, he⟩
    · exact .inl he
    · exact .inr (.inl ⟨c, rfl, hp, he⟩)
  | crit t' =>
    obtain ⟨c, hp, rfl⟩ := step_some h
    rcases upd_apply s.ph t' (.done c (C12.apply s.lib c.env c.op).2) t with he | ⟨rfl, he⟩
    · exact .inl he
    · exact .inr (.inr (.inl ⟨c, rfl, hp, he⟩))
  | ret t' =>
    obtain ⟨c, o, hp, rfl⟩ := step_some h
    rcases upd_apply s.ph t' .idle t with he | ⟨rfl, he⟩
    · exact .inl he
    · exact .inr (.inr (.inr ⟨c, o, rfl, hp, he⟩))

def Phase.isDone : Phase → Bool
  | .done _ _ => true
  | _ => false

/-- a call that has a value to return has run its critical section: somewhere in the trace since the
thread last had none. With `crit_after_inv` (a freshly invoked call is pending, its section is still
to come) this is **(2) real-time order**: if call `a` returns before call `b` is invoked, `a`'s
section is in the trace before that return and `b`'s after that invocation, so `a` comes first in
`linOf` -/
theorem ret_has_crit_before (tr : List Step) : ∀ (s s' : Sys) (t : Nat), run s tr = some s' →
    (s.ph t).isDone = false → (s'.ph t).isDone = true → Step.crit t ∈ tr := by
  induction tr with
  | nil => intro s s' t h h1 h2; cases h; rw [h1] at h2; cases h2
  | cons x xs ih =>
    intro s s' t h h1 h2
    obtain ⟨s1, hs, h⟩ := run_cons h
    cases hd : (s1.ph t).isDone with
    | false => exact List.mem_cons_of_mem _ (ih s1 s' t h hd h2)
    | true =>
      rcases phase_machine s x s1 hs t with he | ⟨c, _, _, hp⟩ | ⟨c, hx, _, _⟩ | ⟨c, o, _, _, hp⟩
      · rw [he, h1] at hd; cases hd
      · rw [hp] at hd; cases hd
      · rw [hx]; exact List.mem_cons_self
      · rw [hp] at hd; cases hd

/-- non-vacuity: two goroutines remove the same listed path; whichever section runs first wins, the
other answers ErrNonExistentWatch — in both interleavings -/
def twoRemoves (first second : Nat) : List Step :=
  [.inv 0 ⟨.remove [100], { C12.kern [] with marks := [5] }⟩, .inv 1 ⟨.remove [100], { C12.kern [] with marks := [5] }⟩,
   .crit first, .crit second, .ret 0, .ret 1]

def listed : Sys := { lib := (({} : Lib).add (C12.kern [([100], 5)]) [100] 0x1f#32 false).1 }

example : (linOf listed (twoRemoves 0 1)).map (fun p => p.2.ret) = [none, some Err.nonExistentWatch] ∧
          (linOf listed (twoRemoves 1 0)).map (fun p => p.2.ret) = [none, some Err.nonExistentWatch] := by decide +kernel

end C07.Lin
