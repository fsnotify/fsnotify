import FsnVerif.Props.C12
/-!
# C04 — Watch-set semantics (model side)

For every reachable state (any history of Add / Remove / record batches, arbitrary kernel answers):
`WatchList` is the key list of the path table, without duplicates; an Add whose kernel answer is
the wd the path already has, or the wd of an entry listed under another name (symlink, hard link,
other spelling) changes no lookup; an Add of a listed path that now names another file moves the
entry (old wd released) or — when that file is already listed under another path — drops the
stale entry and lets the other win; Remove of a path not in the list fails with
`ErrNonExistentWatch` and changes nothing; nothing panics; a failed Add changes nothing.
Partial: which inode a path names (symlink resolution, ENOENT/ENOTDIR/ELOOP/ENAMETOOLONG) is the
kernel's answer — an unconstrained input of every step here, exercised on the real file system by
the injected and live stages.
-/
namespace C04
open Fsn C12

theorem watchlist_nodup {l : Lib} (h : Reachable l) : l.watchList.Nodup := (one_entry_per_watch h).2.1

/-- a path is in `WatchList` iff it is a key of the path table iff its entry exists -/
theorem watchlist_iff {l : Lib} (h : Reachable l) (p : Path) :
    p ∈ l.watchList ↔ ∃ wd w, alLookup p l.pathT = some wd ∧ alLookup wd l.wdT = some w ∧ w.path = p := by
  obtain ⟨hi, _⟩ := reachable_inv h
  show p ∈ l.pathT.map (·.1) ↔ _
  rw [mem_keys_iff]
  constructor
  · rintro ⟨wd, hl⟩; obtain ⟨w, a, b, _⟩ := hi.fwd p wd hl; exact ⟨wd, w, hl, a, b⟩
  · rintro ⟨wd, w, a, _, _⟩; exact ⟨wd, a⟩

/-- a failed Add (missing path, non-directory component, loop, over-long name, …) changes nothing -/
theorem failed_add_unchanged (l : Lib) (env : Env) (arg : Path) (ops : BitVec 32) (nf : Bool) (e : String)
    (hk : ∀ f, env.addWatch (clean arg) f = .error e) :
    (l.add env arg ops nf).1 = l ∧ (l.add env arg ops nf).2.2.ret = some (.errno e) := by
  rw [Lib.add_eq, Lib.register_err false (hk _)]; exact ⟨rfl, rfl⟩

/-- Remove of a path that is not listed: `ErrNonExistentWatch`, nothing changes, no syscall -/
theorem remove_unlisted_err {l : Lib} (h : Reachable l) (env : Env) (arg : Path)
    (hp : alLookup (clean arg) l.pathT = none) :
    (l.remove env arg).1 = l ∧ (l.remove env arg).2.2.ret = some .nonExistentWatch ∧ (l.remove env arg).2.2.sys = [] := by
  rw [Lib.remove_unlisted (reachable_inv h).2.off env hp]; exact ⟨rfl, rfl, rfl⟩

/-- Remove never panics, in any reachable state, for any argument -/
theorem remove_total {l : Lib} (h : Reachable l) (env : Env) (arg : Path) : (l.remove env arg).2.2.panic = false := by
  obtain ⟨hi, hn⟩ := reachable_inv h
  exact (hi.remove hn env arg).2.2

/-- Add of a path whose file is already watched under the **same** path changes no lookup -/
theorem add_same_noop {l : Lib} (h : Reachable l) (path : Path) (fl : BitVec 32) (wd : Nat)
    (hp : alLookup path l.pathT = some wd) (k : Nat) (p : Path) :
    alLookup k (l.applyAdd path fl false wd).wdT = alLookup k l.wdT ∧
    alLookup p (l.applyAdd path fl false wd).pathT = alLookup p l.pathT := by
  obtain ⟨hi, _⟩ := reachable_inv h
  obtain ⟨w, hw, _⟩ := hi.fwd path wd hp
  exact hi.applyAdd_listed path fl false hw (Or.inl hp) k p

/-- Add under **another name** of a file that is already watched (the kernel answers with a listed
wd; the new name is not listed): no lookup changes — in particular `WatchList` keeps only the first
spelling and no second entry (hence no duplicate events) appears -/
theorem add_alias_noop {l : Lib} (h : Reachable l) (path : Path) (fl : BitVec 32) (wd : Nat) (e : Watch)
    (hnew : alLookup path l.pathT = none) (he : alLookup wd l.wdT = some e) (k : Nat) (p : Path) :
    alLookup k (l.applyAdd path fl false wd).wdT = alLookup k l.wdT ∧
    alLookup p (l.applyAdd path fl false wd).pathT = alLookup p l.pathT :=
  (reachable_inv h).1.applyAdd_listed path fl false he (Or.inr hnew) k p

/-- Add of a listed path that has come to name a **different, unlisted** file moves the watch:
the path now maps to the new wd, the old wd is gone from the table (and released: C12) -/
theorem add_repoint_moves {l : Lib} (h : Reachable l) (path : Path) (fl : BitVec 32) (old wd : Nat)
    (hp : alLookup path l.pathT = some old) (hfresh : alLookup wd l.wdT = none) (hwd : wd ≠ 0) :
    alLookup path (l.applyAdd path fl false wd).pathT = some wd ∧
    alLookup old (l.applyAdd path fl false wd).wdT = none ∧
    (∃ w, alLookup wd (l.applyAdd path fl false wd).wdT = some w ∧ w.path = path) := by
  obtain ⟨hi, _⟩ := reachable_inv h
  have hupath : (l.addEntry path fl false wd).path = path := by
    rcases (hi.addEntry path fl false wd).2 with hc | hc
    · rw [hfresh] at hc; cases hc
    · exact hc.2
  have hne : old ≠ wd := by
    intro hh; subst hh; obtain ⟨w0, hw0, _⟩ := hi.fwd path old hp; rw [hfresh] at hw0; cases hw0
  rw [hi.applyAdd_pathT, hi.applyAdd_wdT path fl false hwd, hi.applyAdd_wdT path fl false hwd, hupath]
  simp [hne, hp, hupath]

/-- … and when the new file **is already listed under another path**, the stale entry is dropped
and the other entry wins (the defect F2(a), repaired: before the fix the stale path stayed listed
without an entry and `Remove` on it panicked) -/
theorem add_repoint_to_listed {l : Lib} (h : Reachable l) (path : Path) (fl : BitVec 32) (old wd : Nat) (e : Watch)
    (hp : alLookup path l.pathT = some old) (he : alLookup wd l.wdT = some e) (hne : wd ≠ old) :
    alLookup path (l.applyAdd path fl false wd).pathT = none ∧
    alLookup old (l.applyAdd path fl false wd).wdT = none ∧
    alLookup wd (l.applyAdd path fl false wd).wdT = some e := by
  obtain ⟨hi, _⟩ := reachable_inv h
  have hep : path ≠ e.path := by
    intro hh; have := (hi.bwd wd e he).2; rw [← hh, hp] at this; injection this with this; exact hne this.symm
  rw [hi.applyAdd_pathT, hi.applyAdd_wdT path fl false (hi.ne_zero he), hi.applyAdd_wdT path fl false (hi.ne_zero he),
    Lib.addEntry_listed he]
  simp [hep, hp, Ne.symm hne]

end C04
