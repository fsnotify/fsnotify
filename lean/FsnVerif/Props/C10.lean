import FsnVerif.Proofs.InotifyLemmas
/-!
# C10 — Errors carries only genuine failures; overflow is reported and survivable (model side)

In the model the kernel's `inotify_rm_watch` can only fail with `EINVAL` while the descriptor is
open (K3: the mark is gone — deleted file, explicit removal), and `handleEvent` does not forward
that (F1, repaired). Hence, for **every** record stream and every interleaving with Add/Remove, whatever the
kernel has already dropped ("all speeds"): the reader puts nothing on Errors except exactly one
`ErrEventOverflow` per overflow marker, and the marker changes nothing else.
A `Read` of the descriptor that returns nothing (`io.EOF`) or less than one header (short read) is modelled
(`Lib.stepRead`): one value on Errors, tables untouched (`empty_or_short_read_inert`).
Partial: an error that `Read` itself returns is the runtime's; the reader forwards it as it is, and it is not modelled.
-/
namespace C10
open Fsn

/-- the only results of `remove` (public API: recursion disabled): nil, `ErrNonExistentWatch`, or
EINVAL from the kernel (K3: the mark is already gone) -/
theorem remove_ret (l : Lib) (env : Env) (p : Path) (hrec : l.enableRecurse = false) :
    (l.remove env p).2.2.ret = none ∨ (l.remove env p).2.2.ret = some .nonExistentWatch ∨
    (l.remove env p).2.2.ret = some (.errno "EINVAL") := Lib.remove_ret l env p hrec

theorem dropWatch_enableRecurse (l : Lib) (w : Watch) : (l.dropWatch w).enableRecurse = l.enableRecurse := rfl

theorem afterMoveSelf_errors (l1 : Lib) (env : Env) (w : Watch) (r : Raw) (hrec : l1.enableRecurse = false) :
    (l1.afterMoveSelf env w r).out.errors = [] := by
  cases hp : (l1.remove env w.path).2.2.panic with
  | true => unfold Lib.afterMoveSelf; simp only [hp, if_true]; exact remove_errors ..
  | false =>
    obtain ⟨br, he⟩ := afterMoveSelf_quiet l1 env w r hrec hp
    rw [he, emit_errors]

/-- **benign histories never produce an error**: whatever record arrives, in whatever state, and
whatever the kernel has already dropped, `handleEvent` sends nothing on Errors (public API: no
recursive watches, which every reachable state satisfies — `C12.reachable_inv`) -/
theorem handle_no_errors (l : Lib) (env : Env) (r : Raw) (hrec : l.enableRecurse = false)
    (hnr : ∀ wd w, alLookup wd l.wdT = some w → w.recurse = false) :
    (l.handle env r).out.errors = [] := by
  cases hw : alLookup r.wd l.wdT with
  | none => rw [handle_unknown env hw]
  | some w =>
    cases hk : ignoredOrUnmount r.mask with
    | true => rw [handle_ignored env hw hk]
    | false =>
      cases hm : test r.mask IN_MOVE_SELF with
      | true =>
        rw [handle_moveSelf env hw hk hm, hnr _ _ hw, if_neg (by simp)]
        apply afterMoveSelf_errors
        unfold Lib.afterDeleteSelf
        split <;> simp [dropWatch_enableRecurse, hrec]
      | false => rw [handle_ordinary env hw hk hm, recurseAfter_norec _ _ _ _ (hnr _ _ hw), emit_errors]

/-- Errors carries exactly one `ErrEventOverflow` per overflow marker and nothing else -/
theorem errors_are_overflow_only (l : Lib) (env : Env) (r : Raw) (hrec : l.enableRecurse = false)
    (hnr : ∀ wd w, alLookup wd l.wdT = some w → w.recurse = false) :
    (l.stepRecord env r).out.errors = if (r.mask &&& IN_Q_OVERFLOW) != 0#32 then [Err.overflow] else [] := by
  rw [stepRecord_eq, handle_no_errors l env r hrec hnr]

/-- **overflow is survivable**: the marker (wd −1, never listed) leaves the bookkeeping exactly as
it was, so every later record and every later Add/Remove behaves as if it had not happened -/
theorem overflow_survivable (l : Lib) (env : Env) (r : Raw) (hw : alLookup r.wd l.wdT = none) :
    (l.stepRecord env r).lib = l ∧ (l.stepRecord env r).env.marks = env.marks := by
  rw [stepRecord_eq, handle_unknown env hw]
  exact ⟨rfl, rfl⟩

/-- non-vacuity: the rename-then-delete history (finding F1, repaired): MOVE_SELF handled when the
kernel mark is already gone yields the Rename event and no error -/
example :
    let l : Lib := { wdT := [(3, ⟨3, 0xfc6#32, [102], false⟩)], pathT := [([102], 3)] }
    let env : Env := { addWatch := fun _ _ => .error "ENOENT", marks := [] }
    let res := l.stepRecord env ⟨3, IN_MOVE_SELF, 0#32, 0, []⟩
    res.out.errors = [] ∧ res.out.events = [{ name := [102], op := Rename }] ∧ res.lib.pathT = [] := by decide +kernel

/-- a read that returns nothing (`io.EOF`) or less than one header (short read) puts exactly one value on
Errors, delivers no event and leaves the tables as they were: the reader goes on -/
theorem empty_or_short_read_inert (l : Lib) (env : Env) (bs : List Nat) (h : bs.length < 16) :
    (l.stepRead env bs).1 = l ∧ (l.stepRead env bs).2.2.1.events = [] ∧ (l.stepRead env bs).2.2.1.errors.length = 1 := by
  unfold Lib.stepRead
  by_cases h0 : bs.length = 0
  · simp [h0]
  · simp [h0, h]

end C10
