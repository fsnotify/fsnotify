import FsnVerif.Proofs.BridgeString
import FsnVerif.Proofs.OpStringLemmas
/-!
# C16 — Op and Event predicates and renderings are total, exact and unambiguous

All statements quantify over **every** 32-bit `Op` value (no sampling above bit 16).
`Gen.*` are the definitions regenerated from `fsnotify.go` on every run.
-/
namespace C16
open Fsn

/-- `Op.Has` (as written in the source) is true exactly when the two sets intersect. -/
theorem has_iff_inter (o h : BitVec 32) : Gen.opHas o h = true ↔ o &&& h ≠ 0#32 := by
  rw [Bridge.opHas_eq]; simp [opHas]

/-- `Event.Has` delegates to `Op.Has` on the event's `Op`. -/
theorem event_has_agrees : Gen.eventHasBody = ["return e.Op.Has(op)"] := Bridge.eventHas_eq

/-- the source's `Op.String` is the model's, for all 2^32 values -/
theorem string_is_model (o : BitVec 32) : Gen.opString o = opString o := Bridge.opString_eq o

/-- names rendered = the fixed table filtered by the bits present: each defined operation
present appears once, in table order -/
theorem names_eq_filter (o : BitVec 32) :
    opNames o = (opNameTable.filter (fun p => opHas o p.1)).map (·.2) := by
  unfold opNames
  induction opNameTable with
  | nil => rfl
  | cons p ps ih =>
    simp only [List.flatMap_cons, List.filter_cons, ih]
    cases opHas o p.1 <;> simp

/-- the table names the nine defined operations, one bit each, with distinct `|`-free names -/
theorem table_wellformed :
    opNameTable.map (·.1) = [Create, Remove, Write, Open, Read, CloseWrite, CloseRead, Rename, Chmod] ∧
    (opNameTable.map (·.2)).Nodup ∧ (∀ p ∈ opNameTable, '|' ∉ p.2 ∧ p.2 ≠ []) := by decide +kernel

/-- the text is the names joined by `|`, or `[no events]` when there is none -/
theorem string_is_join (o : BitVec 32) :
    Gen.opString o = if (opNames o).isEmpty then noEvents else joinBar (opNames o) := by
  rw [string_is_model]; rfl

/-- undefined bits never alter the text -/
theorem undefined_bits_irrelevant (o : BitVec 32) : Gen.opString o = Gen.opString (o &&& definedOps) := by
  rw [string_is_model, string_is_model]
  have hn : opNames (o &&& definedOps) = opNames o := by
    have h : ∀ p ∈ opNameTable, test definedOps p.1 = true := by decide
    simp only [opNames, List.flatMap_def]
    rw [List.map_congr_left fun p hp => by rw [opHas_mask _ _ _ (h p hp)]]
  unfold opString
  rw [hn]

/-- the rendering can be parsed back to exactly the defined bits of the value -/
theorem parse_render (o : BitVec 32) : parseOps (Gen.opString o) = o &&& definedOps := by
  rw [string_is_model, parseOps_opString, opNames, foldl_lookup_names o opNameTable (by decide), BitVec.zero_or]
  · rfl
  · intro n hn
    obtain ⟨p, hp, rfl⟩ := List.mem_map.mp (names_eq_filter o ▸ hn)
    exact (table_wellformed.2.2 p (List.mem_filter.mp hp).1).1

/-- distinct sets of defined operations render differently -/
theorem render_injective (o p : BitVec 32) (h : o &&& definedOps ≠ p &&& definedOps) :
    Gen.opString o ≠ Gen.opString p := by
  intro heq
  apply h
  rw [← parse_render o, ← parse_render p, heq]

/-- `[no events]` exactly when no defined operation is present -/
theorem no_events_iff (o : BitVec 32) : Gen.opString o = noEvents ↔ o &&& definedOps = 0#32 := by
  constructor
  · intro h
    rw [← parse_render o, h]; decide
  · intro h
    rw [undefined_bits_irrelevant, h]; decide

/-- `Event.String`: the padded `Op` text, the quoted name and, for the new name of a rename, the
quoted old name. The format strings and argument order are those regenerated from the source. -/
theorem event_string_shape :
    Gen.eventStringShape = [
      ("e.renamedFrom != \"\"", "%-13s %q ← %q", ["e.Op.String()", "e.Name", "e.renamedFrom"]),
      ("", "%-13s %q", ["e.Op.String()", "e.Name"])] := Bridge.eventStringShape_eq

theorem event_string_parts (q : List Nat → List Char) (e : Event) :
    eventString q e = pad13 (opString e.op) ++ ' ' :: q e.name ++
      (if e.renamedFrom = [] then [] else arrow ++ q e.renamedFrom) := by
  unfold eventString
  by_cases h : e.renamedFrom = [] <;> simp [h]

/-- an event with an old name never renders like one without, whatever `%q` does, provided quoted
text cannot end in the arrow (Go's `%q` output ends in `"`) -/
theorem event_string_rename_visible (q : List Nat → List Char) (e : Event) (h : e.renamedFrom ≠ []) :
    arrow ++ q e.renamedFrom <:+ eventString q e := by
  rw [event_string_parts]; simp [h]
  exact ⟨pad13 (opString e.op) ++ ' ' :: q e.name, by simp⟩

/-! tests -/
example : Gen.opString 0x1f#32 = "CREATE|REMOVE|WRITE|RENAME|CHMOD".toList := by decide +kernel
example : Gen.opString 0xfffffe00#32 = "[no events]".toList := by decide +kernel
example : Gen.opString 0x80000108#32 = "CLOSE_READ|RENAME".toList := by decide +kernel
example : Gen.opHas 0x6#32 0x4#32 = true ∧ Gen.opHas 0x6#32 0x9#32 = false := by decide
example : pad13 "CREATE".toList = "CREATE       ".toList := by decide +kernel

end C16
