import FsnVerif.Proofs.KqLemmas
import FsnVerif.Proofs.KqFullRemove
import FsnVerif.Proofs.KqFullQueueGone
/-!
# C17 — kqueue: watch descriptors are always closed again; only user paths are listed (model side)

Over the bookkeeping model of `backend_kqueue.go` (`Model/Kqueue`): the descriptors opened for
watches and not yet closed are exactly the keys of the wd table, in every state reachable by
successful adds (with kernel-fresh descriptors) and removals — so removing a watch (by `Remove`,
by the reader on a delete/rename notification, or as a child of a removed directory) closes its
descriptor — and `Close` leaves no descriptor open (finding F4 repaired). `WatchList` is the
user-added set, which the removal of a path also clears.
Tie: the REAL `backend_kqueue.go` is compiled on Linux against stand-ins and driven by real
file-system operations under a simulated kqueue; after every step the executable invariant
`KState.inv` is evaluated by the Lean driver on a snapshot of the implementation's tables and of the
descriptors really open, next to Go-side descriptor accounting.
Partial twice over: the kernel is simulated, and real BSD/macOS behaviour is out of reach here.
-/
namespace C17
open Kq Fsn

inductive Op
  | add (p link : Path) (fd : Nat) (isDir : Bool)
  | rm (name : Path) (evDeleteOk : Bool)

/-- an add is admissible when the kernel's descriptor is fresh and the path is not watched yet
(otherwise `addWatch` re-registers the existing descriptor and opens nothing) -/
def admissible (s : KState) : Op → Prop
  | .add p _ fd _ => fd ∉ s.openFds ∧ ∀ fd' w, alLookup p s.path = some fd' → alLookup fd' s.wd = some w → False
  | .rm _ _ => True

def apply (s : KState) : Op → KState
  | .add p link fd isDir => s.addOk p link fd isDir
  | .rm name ok => s.rmOne name ok

inductive Reachable : KState → Prop
  | init : Reachable {}
  | step (s : KState) (op : Op) : Reachable s → admissible s op → Reachable (apply s op)

/-- **open descriptors = watch table**, in every reachable state -/
theorem fds_are_table {s : KState} (h : Reachable s) : KInv s := by
  induction h with
  | init => exact inv_init
  | step s op _ ha ih =>
    cases op with
    | add p link fd isDir => exact ih.addOk p link fd isDir ha.1 ha.2
    | rm name ok => exact ih.rmOne name ok

/-- removing a watched path closes exactly its descriptor -/
theorem remove_closes (s : KState) (name : Path) (fd : Nat) (w : KW)
    (hp : alLookup name s.path = some fd) (hw : alLookup fd s.wd = some w) :
    (s.rmOne name true).openFds = s.openFds.filter (· != fd) ∧ alLookup fd (s.rmOne name true).wd = none ∧
    alLookup name (s.rmOne name true).path = none := by
  rw [rmOne_found hp hw]
  exact ⟨rfl, alLookup_erase_same _ _, alLookup_erase_same _ _⟩

/-- … and takes the path out of the user-added set, so `WatchList` no longer shows it -/
theorem remove_unlists (s : KState) (name : Path) (fd : Nat) (w : KW)
    (hp : alLookup name s.path = some fd) (hw : alLookup fd s.wd = some w) :
    name ∉ (s.rmOne name true).byUser := by
  rw [rmOne_found hp hw]
  exact fun h => by simpa using (List.mem_filter.mp h).2

/-- **Close releases every descriptor** -/
theorem close_releases_all {s : KState} (h : Reachable s) : s.closeAll.openFds = [] :=
  Kq.close_releases_all s (fds_are_table h)

/-- `WatchList` is the user-added set while open and empty after Close; internal per-entry watches
(never put into `byUser`) are not shown -/
theorem watchlist_user_only (s : KState) : s.watchList = (if s.closed then [] else s.byUser) := rfl

theorem add_does_not_list (s : KState) (p link : Path) (fd : Nat) (isDir : Bool) :
    (s.addOk p link fd isDir).byUser = s.byUser := rfl

/-- before the repair `Close` called the public `Remove`, which returns at once on a closed
Watcher: nothing was closed -/
theorem close_before_fix_released_nothing (s : KState) :
    ((s.path.map (·.1)).foldl (fun (acc : KState) _ => acc) { s with closed := true }).openFds = s.openFds := by
  induction s.path.map (·.1) with
  | nil => rfl
  | cons k ks ih => simpa using ih

/-! non-vacuity: a directory with two entries, then Close -/
def P (s : String) : Path := s.toList.map (·.toNat)
def three : KState := ((({} : KState).addOk (P "d") [] 5 true).addOk (P "d/a") [] 6 false).addOk (P "d/b") [] 7 false
example : three.inv = true ∧ three.openFds = [7, 6, 5] ∧ three.closeAll.openFds = [] ∧ three.closeAll.wd = [] := by decide +kernel

/-- what the driver prints for a snapshot is "ok" exactly when the executable invariant holds -/
theorem invReport_ok_iff (s : KState) (links : List Path) : s.invReport links = "ok" ↔ s.inv = true := by
  unfold KState.invReport KState.inv
  -- the report tests the four clauses in order; `find?` of the negated fourth test finds nothing exactly when `all` holds
  have key : s.byUser.find? (fun p => !(alHas p s.path || s.wd.any (fun e => e.2.linkName == p))) = none ↔
      s.byUser.all (fun p => alHas p s.path || s.wd.any (fun e => e.2.linkName == p)) = true := by
    simp only [List.find?_eq_none, List.all_eq_true, Bool.not_eq_true', Bool.not_eq_false]
  generalize s.byUser.find? _ = o, s.byUser.all _ = c4 at key ⊢
  cases s.openFds.all (fun fd => alHas fd s.wd) <;> cases s.wd.all (fun e => s.openFds.contains e.1) <;>
    cases s.wd.all (fun e => e.2.wd == e.1 && alLookup e.2.name s.path == some e.1) <;> cases o <;> simp_all <;> split <;> simp

/-!
## The same statements over the FULL model of the backend (`Model/KqFull`)

`Model/KqFull` mirrors the control flow of `backend_kqueue.go` function by function; what the code
asks its environment (`os.Lstat`, `os.Readlink`, `os.ReadDir`, `unix.Open`, the batches `kevent`
returns) is a tape of answers, and the theorems below hold for **every** tape. Tie: the real backend
runs under the simulated kqueue with a recording stand-in for package `os`; every step's tape is fed
to the compiled model and return class, event and error sequence, all five tables, the descriptors
really open, the knotes and `WatchList` are compared (`kqf` lines of the kq stage).
-/
namespace Full
open KqF

inductive Op
  | add (p : Path)
  | remove (p : Path)
  | events            -- the reader works off the kevent batches on the tape
  | close

def run (op : Op) (w : W) : W :=
  match op with
  | .add p => (KqF.add p w).2
  | .remove p => (KqF.remove p true w).2
  | .events => (KqF.reader 64 w).2
  | .close => (KqF.close w).2

/-- the states reachable by any sequence of API calls and reader activity, whatever the environment
answers (`tape` is arbitrary at every step) -/
inductive Reachable : KS → Prop
  | init : Reachable {}
  | step (s : KS) (op : Op) (tape : List Ans) : Reachable s → Reachable (run op { s := s, tape := tape }).s

theorem reachable_inv {s : KS} (h : Reachable s) : Inv s := by
  induction h with
  | init => exact inv_init
  | step s op tape _ ih =>
    cases op with
    | add p => exact keeps_add inv_stable.addWatch p (tr_addUserWatch _) _ ih
    | remove p => exact keeps_remove inv_stable.rm p true _ ih
    | events => exact keeps_reader inv_stable _ _ ih
    | close => exact keeps_close inv_stable.rm (tr_modifyRest none _ fun _ => rfl) _ ih

/-- **every descriptor the Watcher opened and has not closed belongs to a table entry, and every
table entry's descriptor is open** — in every reachable state, for every environment -/
theorem full_fds_are_table {s : KS} (h : Reachable s) (fd : Nat) : fd ∈ s.openFds ↔ alHas fd s.wd = true := by
  have := (reachable_inv h).open_iff fd
  simpa using this

/-- every entry is listed in the path table under its own, clean name and with its own descriptor;
every entry has a knote and knotes exist only on open descriptors -/
theorem full_entries_listed {s : KS} (h : Reachable s) (k : Nat) (w : KqF.KW) (hk : alLookup k s.wd = some w) :
    w.wd = k ∧ alLookup w.name s.path = some k ∧ clean w.name = w.name ∧ alHas k s.knotes = true :=
  let i := reachable_inv h
  ⟨i.key_wd k w hk, i.listed k w hk, i.keys_clean k w hk, i.has_knote k ((alHas_iff _ _).mpr ⟨w, hk⟩)⟩

/-- **`Close` releases everything**: after any history, `Close` leaves no descriptor open, no table
entry and no knote (findings F4 and F15 repaired: before F15's repair a link target that is not in
clean form was a counterexample — `keys_clean` could not be proved) -/
theorem full_close_releases_all {s : KS} (h : Reachable s) (hc : s.closed = false) (tape : List Ans) :
    (run .close { s := s, tape := tape }).s.openFds = [] ∧ (run .close { s := s, tape := tape }).s.wd = [] ∧
      (run .close { s := s, tape := tape }).s.knotes = [] :=
  close_releases _ (reachable_inv h) hc

/-- **`Close` releases every descriptor even when the queue is gone** (finding F18, repaired): `Close` marks
the Watcher closed and then releases path after path; the reader exits as soon as a send finds the Watcher
closed and closes the kqueue on its way out, so every `register(EV_DELETE)` of that loop may fail. Whatever
the kernel's knotes have become at that moment (`kn`; the empty list is "queue closed"), the loop leaves no
descriptor open and no table entry. Before the repair `rm` returned at the failed `register`: with
`kn = []` nothing at all was released -/
theorem full_close_releases_queue_gone {s : KS} (h : Reachable s) (hc : s.closed = false) (tape : List Ans)
    (kn : List (Nat × BitVec 32)) :
    let r := (closeLoop (s.path.map (·.1)) { s := { s with closed := true, knotes := kn }, tape := tape }).2
    r.s.openFds = [] ∧ r.s.wd = [] :=
  close_releases_queue_gone { s := s, tape := tape } (reachable_inv h) hc kn

/-- **`Remove` of a watched path closes that path's descriptor and drops its entry** (and, for a
directory, whatever else it removes, it never adds an entry): afterwards the descriptor is not open,
no entry carries it, no entry is listed under the removed name -/
theorem full_remove_releases {s : KS} (h : Reachable s) (hc : s.closed = false) (name : Path) (info : KqF.KW)
    (hi : alLookup ((alLookup (clean name) s.path).getD 0) s.wd = some info) (tape : List Ans) :
    info.wd ∉ (run (.remove name) { s := s, tape := tape }).s.openFds ∧
    AllEnt (fun k w => k ≠ info.wd ∧ w.name ≠ clean name) (run (.remove name) { s := s, tape := tape }).s := by
  have hinv := reachable_inv h
  obtain ⟨h1, h2⟩ := rm_spec (fuel - 1) name true (fun _ _ => True) { s := s, tape := tape } hinv (fun _ _ _ => trivial)
  rw [← hinv.key_wd _ _ hi] at h2
  rw [show run (.remove name) { s := s, tape := tape } = _ from congrArg Prod.snd (remove_eq name true _ hc)]
  refine ⟨fun hopen => ?_, h2.imp fun _ _ _ h => h.2⟩
  have := (h1.open_iff _).mp hopen
  simp only [reduceCtorEq, or_false] at this
  obtain ⟨e', he'⟩ := (alHas_iff _ _).mp this
  exact (h2 _ _ he').2.1 rfl

/-- **`Remove` of a watched directory releases the watches of its entries** ("through removal of the
containing directory's watch"): afterwards the only watches left directly inside it are ones the user
added himself (and `full_remove_releases` says the directory's own descriptor is closed; every watch
that goes closes its descriptor by `full_fds_are_table`) -/
theorem full_remove_dir_releases_entries {s : KS} (h : Reachable s) (hc : s.closed = false) (name : Path) (info : KqF.KW)
    (hi : alLookup ((alLookup (clean name) s.path).getD 0) s.wd = some info) (hd : info.isDir = true) (tape : List Ans) :
    ∀ k e, alLookup k (run (.remove name) { s := s, tape := tape }).s.wd = some e → dir e.name = clean name → e.name ∈ s.byUser := by
  rw [show run (.remove name) { s := s, tape := tape } = _ from congrArg Prod.snd (remove_eq name true _ hc)]
  exact remove_dir_releases_entries (fuel - 2) name { s := s, tape := tape } (reachable_inv h) hc info hi hd

/-- the clean spellings of everything the user ever asked to add -/
def asked : List Op → List Path
  | [] => []
  | .add p :: rest => clean p :: asked rest
  | _ :: rest => asked rest

/-- reachability, remembering the operations (latest first) -/
inductive ReachH : List Op → KS → Prop
  | init : ReachH [] {}
  | step (ops : List Op) (s : KS) (op : Op) (tape : List Ans) : ReachH ops s → ReachH (op :: ops) (run op { s := s, tape := tape }).s

/-- **WatchList shows only paths the user added** — never one of the per-entry watches the backend
creates internally, whatever the directory contents and the notifications were: in every reachable
state the user set holds nothing but cleaned `Add` arguments (`WatchList` is that set, or nothing once closed) -/
theorem full_watchlist_only_user_paths {ops : List Op} {s : KS} (h : ReachH ops s) :
    ∀ p, p ∈ (watchList { s := s }).1 → p ∈ asked ops := by
  have key : ∀ p, p ∈ s.byUser → p ∈ asked ops := by
    induction h with
    | init => intro p hp; cases hp
    | step ops s op tape _ ih =>
      intro p hp
      cases op with
      | add q =>
        rcases add_user q { s := s, tape := tape } p hp with h1 | h1
        · exact List.mem_cons_of_mem _ (ih p h1)
        · rw [h1]; exact List.mem_cons_self
      | remove q => exact ih p (keeps_remove (noNewUser_stable _).rm q true { s := s, tape := tape } (fun _ h => h) p hp)
      | events => exact ih p (keeps_reader (noNewUser_stable _) _ { s := s, tape := tape } (fun _ h => h) p hp)
      | close => exact ih p (keeps_close (noNewUser_stable _).rm (fun _ h => h) { s := s, tape := tape } (fun _ h => h) p hp)
  intro p hp
  apply key
  simp only [watchList, KqF.get, bind_apply, pure_apply] at hp
  cases hc : s.closed with
  | true => simp [hc] at hp
  | false => simpa [hc] using hp

/-- `Add`, `Remove` and `Close` deliver nothing on Events or Errors, whatever they find on disk: what
exists when a watch is added is never reported (C18's first clause; changes are reported by the reader) -/
theorem full_api_calls_silent (w : W) :
    (∀ p, (run (.add p) w).events = w.events ∧ (run (.add p) w).errors = w.errors) ∧
    (∀ p, (run (.remove p) w).events = w.events ∧ (run (.remove p) w).errors = w.errors) ∧
    ((run .close w).events = w.events ∧ (run .close w).errors = w.errors) :=
  ⟨fun p => add_silent p w, fun p => keeps_remove (frame_silent.keeps_rm w fuel) p true w ⟨rfl, rfl⟩,
    keeps_close (frame_silent.keeps_rm w fuel) (fun _ h => h) w ⟨rfl, rfl⟩⟩

/-- non-vacuity: a directory with one file is added (two descriptors), then the Watcher is closed -/
def tapeAdd : List Ans :=
  [.lstat [47, 100] (.ok .dir), .opn [47, 100] (.ok 5), .readdir [47, 100] (.ok [([97], .ok .file)]),
   .lstat [47, 100, 47, 97] (.ok .file), .opn [47, 100, 47, 97] (.ok 6)]

def afterAdd : W := run (.add [47, 100]) { tape := tapeAdd }

example : afterAdd.s.openFds = [6, 5] ∧ afterAdd.bad = none ∧ afterAdd.tape.length = 0 ∧ afterAdd.s.byUser = [[47, 100]] ∧
    (run .close { s := afterAdd.s }).s.openFds = [] := by decide +kernel

/-!
### What the theorems above do NOT cover: `Close` between the two halves of an `addWatch` (finding F16)

`Op` treats every API call as atomic. The implementation holds no lock across `addWatch`: the closed test, the
`unix.Open`, and `register` + `watches.add` are three separate steps, and `Close` can run between them.
`closeDuringAdd` composes the model's own halves in that order — `openNew` (the closed test was passed before),
the whole of `Close`, then `finishAdd` — and the clause "once the Watcher is closed it holds no descriptor" is
**false** for that schedule, in the model exactly as in the implementation (kq stage, corpus session 16:
`unix.OpenHook` runs `Close()` while `Add` is inside `unix.Open`). Kept as a theorem so that the gap between the
atomic theorems and the concurrent implementation is stated, not implied; recorded as known finding F16.
-/
def closeDuringAdd (name : Path) (w : W) : Option W :=
  match openNew (clean name) {} false w with
  | (.ok (n, i, a), w1) => some (finishAdd (watchDirectoryFiles (addWatch fuel)) n i a noteAllEvents (close w1).2).2
  | _ => none

def raceW : W := { tape := [.lstat [47, 102] (.ok .file), .opn [47, 102] (.ok 3)] }

/-- the Watcher is closed, descriptor 3 is open, registered with the kernel and listed in the table: leaked -/
theorem close_during_add_leaks :
    (closeDuringAdd [47, 102] raceW).map
        (fun w3 => (w3.s.closed, w3.s.openFds, w3.s.knotes.map (·.1), w3.s.wd.map (·.1), w3.bad)) =
      some (true, [3], [3], [3], none) := by decide +kernel

/-- …whereas the same two calls one after the other (either order) leave nothing open -/
example : (run .close (run (.add [47, 102]) raceW)).s.openFds = [] ∧
    (run (.add [47, 102]) (run .close raceW)).s.openFds = [] := by decide +kernel

/-!
### … and two `addWatch` of one path at once (finding F17)

The caller's `addWatch(p)` has passed the "already watching?" test and opened `p` (`openNew`); the reader's
`dirChange` → `internalWatch` runs a whole `addWatch(p)` of its own (it, too, finds `p` unwatched and opens it);
then the caller finishes (`finishAdd`). Both descriptors are open and in the wd table, the path table knows one
of them — and `Close`, which walks the path table, releases only that one. Same in the implementation (race
sessions of the kq stage: `Add(d0)` with an entry created or removed before its third system call).
-/
def addTwice (p : Path) (w : W) : Option W :=
  match openNew (clean p) {} true w with
  | (.ok (n, i, a), w1) =>
    let w2 := (addWatch fuel p noteAllEvents true w1).2
    some (finishAdd (watchDirectoryFiles (addWatch fuel)) n i a noteAllEvents w2).2
  | _ => none

def twiceW : W :=
  { tape := [.lstat [47, 102] (.ok .file), .opn [47, 102] (.ok 3), .lstat [47, 102] (.ok .file), .opn [47, 102] (.ok 4)] }

/-- descriptors 3 and 4 are open and in the wd table, the path table points at 3; after `Close` descriptor 4 is
still open -/
theorem add_twice_leaks :
    (addTwice [47, 102] twiceW).map
        (fun w => (w.s.openFds, w.s.wd.map (·.1), w.s.path.map (·.2), (run .close w).s.openFds, w.bad)) =
      some ([4, 3], [4, 3], [3], [4], none) := by decide +kernel

/-!
### … and an `Add(dir)` that fails half way (finding F19)

No interleaving needed, only an environment that changes between `ReadDir` and `Lstat`: the directory lists
`a` and `b`, `b` is gone when it is looked at. `Add` returns the error, the directory and `a` stay open,
registered and in the tables — and nothing is in `WatchList` (`addUserWatch` is reached on success only).
-/
def tapeHalf : List Ans :=
  [.lstat [47, 100] (.ok .dir), .opn [47, 100] (.ok 5), .readdir [47, 100] (.ok [([97], .ok .file), ([98], .error .noent)]),
   .lstat [47, 100, 47, 97] (.ok .file), .opn [47, 100, 47, 97] (.ok 6)]

theorem failed_add_leaves_watches :
    let r := KqF.add [47, 100] { tape := tapeHalf }
    r.1 = some (.fs .noent) ∧ r.2.s.openFds = [6, 5] ∧ r.2.s.byUser = [] ∧ (watchList r.2).1 = [] ∧ r.2.bad = none := by
  decide +kernel

end Full
end C17
