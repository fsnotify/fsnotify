import FsnVerif.Proofs.DecodeLemmas
import FsnVerif.Proofs.InotifyLemmas
import FsnVerif.Generated.Tables
/-!
# C01 — No lost events

Model side of "every kernel notification is reported exactly once":
* the decode loop visits every record of every well-formed buffer exactly once, in order
  (`decode_encode`) — any number of records, any name length / padding residue, any offset;
* one record yields at most one event (`handle_at_most_one`) and the set of records that yield
  *none* is characterised exactly (`handle_drop_classes`): unknown wd, IGNORED/UNMOUNT,
  MOVE_SELF on a recursive watch, DELETE_SELF with the parent listed, empty translation, panic;
* batching is irrelevant (`batching_irrelevant`);
* an overflow marker is announced as `ErrEventOverflow` and changes nothing else;
* under `Add`'s default request the kernel is asked for every native bit that translates to one
  of the five default operations (`default_request_complete`, over the regenerated tables).
Not provable here (partial): that the kernel raises a record for every change (K-live) and Go's
channel semantics behind `sendEvent` (modelled in `Model/Proto.lean`).
-/
namespace C01
open Fsn

theorem decode_encode (recs : List Raw) (hwf : ∀ r ∈ recs, r.WF) (trailing : List Nat) (ht : trailing.length < 16) :
    decodeBuf (recs.flatMap encode ++ trailing) = .ok recs := Fsn.decode_encode recs hwf trailing ht

/-- never more than one Event per kernel record -/
theorem handle_at_most_one (l : Lib) (env : Env) (r : Raw) : (l.stepRecord env r).out.events.length ≤ 1 := by
  rw [stepRecord_events]
  rcases handle_events l env r with h | ⟨w, L, _, h⟩ <;> rw [h]
  · exact Nat.zero_le 1
  · cases L.eventOf w r <;> simp

/-- a record for a listed wd that is not housekeeping, not a self-move and not a suppressed
self-delete **is reported**, with the translated operation and the entry's name -/
theorem handle_reports (l : Lib) (env : Env) (r : Raw) (w : Watch)
    (hw : alLookup r.wd l.wdT = some w)
    (hk : ignoredOrUnmount r.mask = false)
    (hm : test r.mask IN_MOVE_SELF = false)
    (hs : ((r.mask &&& IN_DELETE_SELF) != 0#32 && alHas (dir w.path) (l.afterDeleteSelf w r).pathT) = false)
    (hop : inotifyNewEventOp r.mask ≠ 0#32) :
    ∃ e, (l.stepRecord env r).out.events = [e] ∧ e.name = nameOf w r ∧ e.op = inotifyNewEventOp r.mask := by
  rw [stepRecord_events, handle_ordinary_events env hw hk hm]
  cases he : (l.afterDeleteSelf w r).eventOf w r with
  | none =>
    rw [Lib.eventOf_eq_none, hs, Bool.false_or, beq_iff_eq] at he
    exact absurd he hop
  | some e => exact ⟨e, rfl, (Lib.eventOf_some he).1, (Lib.eventOf_some he).2.1⟩

/-- the exact list of ways a record produces **no** event -/
theorem handle_drop_classes (l : Lib) (env : Env) (r : Raw) (h : (l.stepRecord env r).out.events = []) :
    alLookup r.wd l.wdT = none ∨
    (∃ w, alLookup r.wd l.wdT = some w ∧
      (ignoredOrUnmount r.mask = true ∨ test r.mask IN_MOVE_SELF = true ∨
       ((r.mask &&& IN_DELETE_SELF) != 0#32 && alHas (dir w.path) (l.afterDeleteSelf w r).pathT) = true ∨
       inotifyNewEventOp r.mask = 0#32)) := by
  cases hw : alLookup r.wd l.wdT with
  | none => exact Or.inl rfl
  | some w =>
    -- otherwise the record is reported
    refine Or.inr ⟨w, rfl, Decidable.byContradiction fun hn => ?_⟩
    simp only [not_or, Bool.not_eq_true] at hn
    obtain ⟨e, he, _⟩ := handle_reports l env r w hw hn.1 hn.2.1 hn.2.2.1 hn.2.2.2
    rw [h] at he; cases he

/-- **batching is irrelevant**: one read with `rs₁ ++ rs₂` ≡ a read with `rs₁` then a read with `rs₂` -/
theorem batching_irrelevant (l : Lib) (env : Env) (rs1 rs2 : List Raw) (hp : noPanic l env rs1) :
    (l.stepRecords env (rs1 ++ rs2)).1 = ((l.stepRecords env rs1).1.stepRecords (l.stepRecords env rs1).2.1 rs2).1 ∧
    (l.stepRecords env (rs1 ++ rs2)).2.2.1.events =
      (l.stepRecords env rs1).2.2.1.events ++
      ((l.stepRecords env rs1).1.stepRecords (l.stepRecords env rs1).2.1 rs2).2.2.1.events :=
  ⟨(stepRecords_append l env rs1 rs2 hp).1, congrArg Out.events (stepRecords_append l env rs1 rs2 hp).2.2⟩

/-- the overflow marker (wd −1, never listed) is announced on Errors and changes nothing -/
theorem overflow_announced (l : Lib) (env : Env) (r : Raw)
    (hw : alLookup r.wd l.wdT = none) (ho : (r.mask &&& IN_Q_OVERFLOW) != 0#32) :
    (l.stepRecord env r).out.errors = [Err.overflow] ∧ (l.stepRecord env r).out.events = [] ∧
    (l.stepRecord env r).lib = l := by
  rw [stepRecord_eq, handle_unknown env hw, if_pos ho]
  exact ⟨rfl, rfl, rfl⟩

/-- a record without the overflow bit never produces `ErrEventOverflow` -/
theorem no_spurious_overflow (l : Lib) (env : Env) (r : Raw) (ho : ((r.mask &&& IN_Q_OVERFLOW) != 0#32) = false) :
    (l.stepRecord env r).out.errors = (l.handle env r).out.errors := by
  rw [stepRecord_eq, ho]; rfl

/-- under `Add`, every native bit that can translate to a default operation is subscribed
(evaluated by the kernel directly on the regenerated request and translation tables) -/
theorem default_request_complete : ∀ k, k < 32 →
    opHas (Gen.inotifyNewEventOp (BitVec.twoPow 32 k)) Gen.defaultOps = true →
    (Gen.inotifyRequest false Gen.defaultOps).getLsbD k = true := by decide +kernel

/-! ### non-vacuity: a two-record buffer (15- and 16-byte names, paddings 1 and 16) decodes to both -/
def r15 : Raw := { wd := 3, mask := IN_CREATE, cookie := 0#32, len := 16, name := padName (List.replicate 15 97) }
def r16 : Raw := { wd := 4, mask := IN_MODIFY, cookie := 0#32, len := 32, name := padName (List.replicate 16 98) }
example : decodeBuf (encode r15 ++ encode r16) = .ok [r15, r16] := by decide +kernel
example : r15.WF ∧ r16.WF := by constructor <;> constructor <;> decide

end C01
