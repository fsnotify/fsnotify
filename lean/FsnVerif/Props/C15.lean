import FsnVerif.Proofs.BridgeTables
/-!
# C15 — Native notification flags map to the documented operations on every backend

`Gen.*` are regenerated from `backend_inotify.go`, `backend_kqueue.go`,
`backend_windows.go`, `backend_fen.go` on every run (constants resolved by
`go/types` per GOOS). All statements hold for **all** 32-bit (64-bit) masks.
-/
namespace C15
open Fsn

/-- a combination of native flags yields exactly the union of what its parts yield -/
theorem inotify_union (a b : BitVec 32) :
    Gen.inotifyNewEventOp (a ||| b) = Gen.inotifyNewEventOp a ||| Gen.inotifyNewEventOp b := EventOp.inotify_union a b

/-- the documented mapping, one operation at a time -/
theorem inotify_mapping (m : BitVec 32) :
    (opHas (Gen.inotifyNewEventOp m) Create     = (test m IN_CREATE || test m IN_MOVED_TO)) ∧
    (opHas (Gen.inotifyNewEventOp m) Remove     = (test m IN_DELETE_SELF || test m IN_DELETE)) ∧
    (opHas (Gen.inotifyNewEventOp m) Write      = test m IN_MODIFY) ∧
    (opHas (Gen.inotifyNewEventOp m) Rename     = (test m IN_MOVE_SELF || test m IN_MOVED_FROM)) ∧
    (opHas (Gen.inotifyNewEventOp m) Chmod      = test m IN_ATTRIB) ∧
    (opHas (Gen.inotifyNewEventOp m) Open       = test m IN_OPEN) ∧
    (opHas (Gen.inotifyNewEventOp m) Read       = test m IN_ACCESS) ∧
    (opHas (Gen.inotifyNewEventOp m) CloseWrite = test m IN_CLOSE_WRITE) ∧
    (opHas (Gen.inotifyNewEventOp m) CloseRead  = test m IN_CLOSE_NOWRITE) := by
  simp only [Bridge.inotifyNewEventOp_eq, Fsn.inotifyNewEventOp, applyRules_has]
  simp [inotifyRules, opHas, Create, Remove, Write, Rename, Chmod, Open, Read, CloseWrite, CloseRead]

/-- housekeeping bits (`IN_ISDIR`, `IN_IGNORED`, `IN_UNMOUNT`, `IN_Q_OVERFLOW`, the control bits)
contribute no operation, alone or combined with anything -/
theorem inotify_housekeeping_silent (m h : BitVec 32)
    (hh : h &&& 0xfff#32 = 0#32) : Gen.inotifyNewEventOp (m ||| h) = Gen.inotifyNewEventOp m :=
  EventOp.inotify_housekeeping_silent m h hh

example : (IN_ISDIR ||| IN_IGNORED ||| IN_UNMOUNT ||| IN_Q_OVERFLOW) &&& 0xfff#32 = 0#32 := by decide

theorem request_union (nf : Bool) (a b : BitVec 32) :
    Gen.inotifyRequest nf (a ||| b) = Gen.inotifyRequest nf a ||| Gen.inotifyRequest nf b := by
  simp only [Bridge.inotifyRequest_eq, Fsn.inotifyRequest, applyReq_or]
  cases nf <;> simp
  ac_rfl

/-- the request depends only on the nine defined operation bits -/
theorem request_mask (nf : Bool) (s : BitVec 32) :
    Gen.inotifyRequest nf (s &&& definedOps) = Gen.inotifyRequest nf s := by
  simp only [Bridge.inotifyRequest_eq, Fsn.inotifyRequest]
  rw [applyReq_mask _ _ _ (by decide)]

/-- `Add` (five default operations) subscribes to exactly `0xfc6` -/
theorem request_default : Gen.inotifyRequest false Gen.defaultOps = 0xfc6#32 := by
  rw [Bridge.inotifyRequest_eq]; decide

/-- **none of the requested operations is left unobservable**: translating the subscribed mask
back yields every requested defined operation -/
theorem request_observable (nf : Bool) (s : BitVec 32) :
    (s &&& definedOps) &&& ~~~(Gen.inotifyNewEventOp (Gen.inotifyRequest nf s)) = 0#32 := by
  rw [Bridge.inotifyNewEventOp_eq, Bridge.inotifyRequest_eq]
  exact applyReq_observable (by decide +kernel) (by decide +kernel) _ s

/-- **no unrelated flag is requested**: every subscribed native bit either translates to a
requested operation, or is `IN_DONT_FOLLOW` (a control bit, only with `noFollow`), or is
`IN_MOVED_TO` subscribed for `Rename` (the move-in half needed to pair a rename) -/
theorem request_minimal (nf : Bool) (s : BitVec 32) (k : Nat) (hk : k < 32)
    (hbit : (Gen.inotifyRequest nf s).getLsbD k = true) :
    opHas (Gen.inotifyNewEventOp (BitVec.twoPow 32 k)) s = true ∨
    (BitVec.twoPow 32 k = IN_DONT_FOLLOW ∧ nf = true) ∨
    (BitVec.twoPow 32 k = IN_MOVED_TO ∧ opHas s Rename = true) := by
  -- row by row: every bit a row subscribes translates back to the row's operation, `IN_MOVED_TO` for `Rename` apart
  have rows : inotifyRequestRules.all (fun r => r.flags.all fun f => (List.range 32).all fun k =>
      !r.op.getLsbD k || test (Fsn.inotifyNewEventOp (BitVec.twoPow 32 k)) f ||
        (BitVec.twoPow 32 k == IN_MOVED_TO && f == Rename)) = true := by decide +kernel
  have noFollow : ∀ k < 32, IN_DONT_FOLLOW.getLsbD k = true → BitVec.twoPow 32 k = IN_DONT_FOLLOW := by decide +kernel
  simp only [List.all_eq_true, List.mem_range, Bool.or_eq_true, Bool.not_eq_true', Bool.and_eq_true, beq_iff_eq] at rows
  simp only [Bridge.inotifyRequest_eq, Bridge.inotifyNewEventOp_eq, Fsn.inotifyRequest, BitVec.getLsbD_or,
    Bool.or_eq_true] at hbit ⊢
  rcases hbit with h | h
  · cases nf
    · simp at h
    · exact Or.inr (Or.inl ⟨noFollow k hk h, rfl⟩)
  · obtain ⟨r, hr, ⟨f, hf, hsf⟩, hrk⟩ := getLsbD_applyReq.mp h
    rcases rows r hr f hf k hk with (h0 | ht) | ⟨hm, rfl⟩
    · rw [hrk] at h0; cases h0
    · exact Or.inl (opHas_of_test ht hsf)
    · exact Or.inr (Or.inr ⟨hm, hsf⟩)

/-- every native bit that translates to one of the five default operations is in the default
request mask: under `Add` the kernel is asked for everything the translator can report (C01) -/
theorem default_request_complete (k : Nat) (hk : k < 32)
    (h : opHas (Gen.inotifyNewEventOp (BitVec.twoPow 32 k)) Gen.defaultOps = true) :
    (Gen.inotifyRequest false Gen.defaultOps).getLsbD k = true := by
  revert k
  decide +kernel

/-- kqueue: union of the parts, dropping `Write` when `Remove` is present -/
theorem kqueue_union (a b : BitVec 32) :
    Gen.kqueueNewEventOp (a ||| b) = dropWriteIfRemove (Gen.kqueueNewEventOp a ||| Gen.kqueueNewEventOp b) := by
  simp only [Bridge.kqueueNewEventOp_eq, Fsn.kqueueNewEventOp]
  rw [applyRules_or (by decide), dropWriteIfRemove_or]

/-- kqueue mapping: deletion ↦ Remove, write ↦ Write unless also deleted, rename ↦ Rename,
attribute change ↦ Chmod; nothing else (never Create: Creates come from directory diffs, C18) -/
theorem kqueue_mapping (m : BitVec 32) :
    (opHas (Gen.kqueueNewEventOp m) Remove = test m NOTE_DELETE) ∧
    (opHas (Gen.kqueueNewEventOp m) Write  = (test m NOTE_WRITE && !test m NOTE_DELETE)) ∧
    (opHas (Gen.kqueueNewEventOp m) Rename = test m NOTE_RENAME) ∧
    (opHas (Gen.kqueueNewEventOp m) Chmod  = test m NOTE_ATTRIB) ∧
    (opHas (Gen.kqueueNewEventOp m) (Create ||| unportableOps) = false) := by
  simp only [Bridge.kqueueNewEventOp_eq, Fsn.kqueueNewEventOp, applyRules, kqueueRules, List.foldl, List.any, Bool.or_false]
  generalize test m NOTE_DELETE = a1
  generalize test m NOTE_WRITE = a2
  generalize test m NOTE_RENAME = a3
  generalize test m NOTE_ATTRIB = a4
  revert a1 a2 a3 a4
  decide +kernel

/-- the kqueue subscription covers exactly the four notes the translator inspects -/
theorem kqueue_subscription :
    Gen.noteAllEvents = NOTE_DELETE ||| NOTE_WRITE ||| NOTE_ATTRIB ||| NOTE_RENAME ∧
    (∀ k, k < 32 → (Gen.noteAllEvents.getLsbD k = true ↔ Gen.kqueueNewEventOp (BitVec.twoPow 32 k) ≠ 0#32)) := by
  simp only [Bridge.noteAllEvents_eq, Bridge.kqueueNewEventOp_eq]
  decide +kernel

/-- `sysFSMOVE` (both move bits) implies `sysFSMOVEDFROM`, so its test is redundant -/
theorem win_move_redundant (a : BitVec 32) :
    (test a sysFSMOVE || (test a sysFSMOVESELF || test a sysFSMOVEDFROM)) = (test a sysFSMOVESELF || test a sysFSMOVEDFROM) := by
  cases h : test a sysFSMOVE
  · simp
  · simp [test_trans h (by decide : test sysFSMOVE sysFSMOVEDFROM = true)]

/-- `winRules` without the test of `sysFSMOVE`: that flag is two bits, and the union law `applyRules_or` is for tables of
single bits -/
def winRules' : List Rule := [
  ⟨[sysFSCREATE, sysFSMOVEDTO], Create⟩, ⟨[sysFSDELETE, sysFSDELETESELF], Remove⟩,
  ⟨[sysFSMODIFY], Write⟩, ⟨[sysFSMOVESELF, sysFSMOVEDFROM], Rename⟩]

theorem win_eq_single (a : BitVec 32) : applyRules winRules a = applyRules winRules' a := by
  simp only [applyRules, winRules, winRules', List.foldl, List.any, Bool.or_false, win_move_redundant]

theorem win_union (a b : BitVec 32) :
    Gen.winNewEventOp (a ||| b) = Gen.winNewEventOp a ||| Gen.winNewEventOp b := by
  simp only [Bridge.winNewEventOp_eq, Fsn.winNewEventOp, win_eq_single]
  exact applyRules_or (by decide) a b

theorem win_mapping (m : BitVec 32) :
    (opHas (Gen.winNewEventOp m) Create = (test m sysFSCREATE || test m sysFSMOVEDTO)) ∧
    (opHas (Gen.winNewEventOp m) Remove = (test m sysFSDELETE || test m sysFSDELETESELF)) ∧
    (opHas (Gen.winNewEventOp m) Write  = test m sysFSMODIFY) ∧
    (opHas (Gen.winNewEventOp m) Rename = (test m sysFSMOVESELF || test m sysFSMOVEDFROM)) := by
  simp only [Bridge.winNewEventOp_eq, Fsn.winNewEventOp, applyRules_has]
  simp [winRules, opHas, Create, Remove, Write, Rename, win_move_redundant]

/-- attribute changes are never reported on Windows (nor any unportable operation) -/
theorem windows_never_chmod (m : BitVec 32) : opHas (Gen.winNewEventOp m) (Chmod ||| unportableOps) = false := by
  simp only [Bridge.winNewEventOp_eq, Fsn.winNewEventOp, applyRules_has]
  simp [winRules, opHas, Create, Remove, Write, Rename, Chmod, unportableOps, Open, Read, CloseWrite, CloseRead]

/-- `FILE_ACTION_*` ↦ internal mask ↦ portable operation, for every action value -/
theorem win_action_mapping (a : BitVec 32) :
    Gen.winNewEventOp ((Gen.toFSnotifyFlags a).truncate 32) =
      if a == 0x1#32 then Create else if a == 0x2#32 then Remove else if a == 0x3#32 then Write
      else if a == 0x4#32 then Rename else if a == 0x5#32 then Create else 0#32 := by
  rw [Bridge.toFSnotifyFlags_eq, Bridge.winNewEventOp_eq]
  simp only [Fsn.toFSnotifyFlags, apply_ite fun x : BitVec 64 => Fsn.winNewEventOp (x.truncate 32)]
  rfl

/-- `toWindowsFlags`: union law and exact table -/
theorem toWindowsFlags_union (a b : BitVec 64) :
    Gen.toWindowsFlags (a ||| b) = Gen.toWindowsFlags a ||| Gen.toWindowsFlags b := by
  simp only [Bridge.toWindowsFlags_eq, Fsn.toWindowsFlags, and_or_ne_zero, ite_or_zero]
  ac_rfl

theorem xSupports_all :
    (∀ op, Gen.xSupportsInotify op = true) ∧
    (∀ op, Gen.xSupportsKqueue op = !(opHas op unportableOps)) ∧
    (∀ op, Gen.xSupportsWindows op = !(opHas op unportableOps)) ∧
    (∀ op, Gen.xSupportsFen op = !(opHas op unportableOps)) :=
  ⟨fun _ => rfl, Bridge.xSupportsKqueue_eq, Bridge.xSupportsWindows_eq, Bridge.xSupportsFen_eq⟩

/-- the five portable operations are supported everywhere -/
theorem portable_always_supported (op : BitVec 32) (h : op &&& ~~~Fsn.defaultOps = 0#32) :
    Gen.xSupportsKqueue op = true ∧ Gen.xSupportsWindows op = true ∧ Gen.xSupportsFen op = true := by
  have : opHas op unportableOps = false := by
    rw [opHas, (by decide : unportableOps = ~~~Fsn.defaultOps &&& unportableOps), ← BitVec.and_assoc, h, BitVec.zero_and]
    rfl
  simp [Bridge.xSupportsKqueue_eq, Bridge.xSupportsWindows_eq, Bridge.xSupportsFen_eq, xSupportsPortableOnly, this]

/-! tests -/
example : Gen.inotifyNewEventOp (IN_MOVED_TO ||| IN_ISDIR) = Create := by decide
example : Gen.inotifyNewEventOp (IN_DELETE_SELF ||| IN_ATTRIB) = Remove ||| Chmod := by decide
example : Gen.kqueueNewEventOp (NOTE_WRITE ||| NOTE_DELETE) = Remove := by decide
example : Gen.inotifyRequest true (Write ||| CloseWrite) = IN_DONT_FOLLOW ||| IN_MODIFY ||| IN_CLOSE_WRITE := by decide

end C15
