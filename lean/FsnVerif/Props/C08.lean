import FsnVerif.Proofs.InvLemmas
import FsnVerif.Proofs.DecodeLemmas
import FsnVerif.Proofs.PathLemmas
import FsnVerif.Proofs.PathShape
import FsnVerif.Proofs.TrimLemmas
/-!
# C08 — Event names are spelled relative to the caller's Add argument (model side)

The name of an event is built from the *stored watch path* and the record's name bytes only;
the stored path is the cleaned Add argument of the first successful Add for that inode; the
decoded entry name is exactly the kernel's name. `clean` models `filepath.Clean` (validated
differentially, exhaustively over a small alphabet).
-/
namespace C08
open Fsn

/-- the name is the listed watch's path, or that path, a separator and the NUL-trimmed entry name -/
theorem name_is_path_plus_entry (l : Lib) (env : Env) (r : Raw) (e : Event)
    (he : e ∈ (l.stepRecord env r).out.events) :
    ∃ w, alLookup r.wd l.wdT = some w ∧
      e.name = (if r.len > 0 then w.path ++ slash :: trimNul r.name else w.path) := by
  obtain ⟨w, hw, hn, _⟩ := stepRecord_event he
  exact ⟨w, hw, hn⟩

/-- a kernel-padded entry name (any length, hence any padding residue) is recovered exactly -/
theorem decoded_name_exact (nm : List Nat) (h : nm.getLast? ≠ some 0) : trimNul (padName nm) = nm :=
  trimNul_padName nm h

/-- and the padded field has the kernel's length `roundup(len+1, 16)` -/
theorem padded_length (nm : List Nat) (h : nm ≠ []) : (padName nm).length = (nm.length / 16 + 1) * 16 :=
  padName_length nm h

/-- a first successful Add of a path stores the **cleaned argument** as the watch path -/
theorem stored_path_is_clean_arg (l : Lib) (env : Env) (arg : Path) (ops : BitVec 32) (nf : Bool) (wd : Nat)
    (hk : env.addWatch (clean arg) (inotifyRequest nf ops) = .ok wd)
    (hnew : alLookup (clean arg) l.pathT = none) (hfresh : alLookup wd l.wdT = none) :
    alLookup wd (l.add env arg ops nf).1.wdT = some ⟨wd, inotifyRequest nf ops, clean arg, false⟩ ∧
    alLookup (clean arg) (l.add env arg ops nf).1.pathT = some wd := by
  rw [Lib.add_eq, Lib.register_ok false (by rwa [Lib.reqFlags_unlisted hnew]), Lib.reqFlags_unlisted hnew, Lib.applyAdd_eq,
    Lib.addEntry_new hfresh hnew]
  -- what is erased is the zero descriptor (nothing was listed under the path), and only if `wd` is another one
  simp only [alLookup_ite_erase_insert]
  simp [hnew]

/-- **first alias wins**: when the kernel answers an Add with a wd that is already listed (same
file under another name: symlink, hard link, other spelling), the existing entry — and with it
the name used for all its events — is unchanged -/
theorem first_alias_wins (l : Lib) (env : Env) (arg : Path) (ops : BitVec 32) (nf : Bool) (wd : Nat) (e : Watch)
    (hk : ∀ f, env.addWatch (clean arg) f = .ok wd)
    (hlisted : alLookup wd l.wdT = some e) (hkey : e.wd = wd) (hne : wd ≠ 0)
    (hnew : alLookup (clean arg) l.pathT = none) :
    alLookup wd (l.add env arg ops nf).1.wdT = some e := by
  rw [Lib.add_eq, Lib.register_ok false (hk _), Lib.applyAdd_eq, Lib.addEntry_listed hlisted, hkey, hnew]
  -- Go's zero value: `delete(wd, 0)` after the insert
  simp [alLookup_erase, alLookup_insert, hne]

/-- the cleaned argument is stable: cleaning it again (as `Remove` and `removePath` do) changes nothing,
so Add, Remove and the stored path agree on one spelling -/
theorem clean_idempotent (p : Path) : clean (clean p) = clean p := clean_idem p

/-- the name never depends on anything but the stored path and the record: in particular not on
the file system (no link is ever resolved when naming an event) -/
theorem no_target_leak (w : Watch) (r : Raw) :
    nameOf w r = (if r.len > 0 then w.path ++ slash :: trimNul r.name else w.path) := rfl

/-- the stored path is never the empty string (so no event name is empty or starts with the separator
that `nameOf` inserts) -/
theorem stored_path_nonempty (arg : Path) : clean arg ≠ [] := clean_ne_nil arg

/-- the stored path is absolute exactly when the caller's argument is: a relative Add yields relative
names, an absolute Add absolute ones — for every argument, whatever `.`/`..`/`//` it contains -/
theorem stored_path_absolute_iff (arg : Path) :
    (clean arg).head? = some slash ↔ arg.head? = some slash := clean_head_slash arg

/-- and so is the **name of every event** of a watch stored under the cleaned argument -/
theorem name_absolute_iff (w : Watch) (r : Raw) (arg : Path) (hw : w.path = clean arg) :
    (nameOf w r).head? = some slash ↔ arg.head? = some slash := by
  rw [no_target_leak, hw]
  split
  · -- the head of `clean arg ++ _` is that of `clean arg`, which is not empty
    rw [← clean_head_slash arg, List.head?_append, List.head?_eq_some_head (clean_ne_nil arg)]; rfl
  · exact clean_head_slash arg

/-- the stored path ends in a separator only when it is the root: the separator that the name-building
concatenation inserts (backend_inotify.go, `name += "/" + …`; `nameOf` here) is the only one at the junction
for every watch but one on `/` itself -/
theorem stored_path_no_trailing_slash (arg : Path) :
    clean arg = [slash] ∨ (clean arg).getLast? ≠ some slash := clean_no_trailing_slash arg

/-- **never carries padding bytes**: for every record, well-formed or not, the entry part of the name does not
end in NUL -/
theorem entry_no_trailing_nul (r : Raw) : (trimNul r.name).getLast? ≠ some 0 := trimNul_no_trailing_nul r.name

/-- **never truncated**: the record's name bytes are the entry part followed by NUL bytes only — trimming cuts
nothing but padding, for every record -/
theorem entry_only_padding_cut (r : Raw) : ∃ k, r.name = trimNul r.name ++ List.replicate k 0 :=
  trimNul_prefix r.name

/-- **the whole name for a kernel-built record**: the record for entry `nm` (any length ≥ 1, not ending in NUL)
carries `padName nm`; the event is named exactly stored path, separator, `nm` -/
theorem kernel_record_name (w : Watch) (r : Raw) (nm : List Nat) (hnm : nm ≠ []) (h0 : nm.getLast? ≠ some 0)
    (hr : r.name = padName nm) (hl : r.len = (padName nm).length) :
    nameOf w r = w.path ++ slash :: nm := by
  rw [no_target_leak]
  have hpos : r.len > 0 := by rw [hl, padName_length nm hnm]; omega
  rw [if_pos hpos, hr, trimNul_padName nm h0]

/-- non-vacuity: a relative argument with `..` and `//`, an entry name, a relative event name -/
example : nameOf ⟨1, 0, clean [46, 46, 47, 47, 97], false⟩ ⟨1, 0x100, 0, 16, [98, 0, 0]⟩ = [46, 46, 47, 97, 47, 98] := by decide

end C08
