import FsnVerif.Props.C08
import FsnVerif.Props.C12
import FsnVerif.Props.C02
import FsnVerif.Proofs.CleanLemmas
/-!
# C09 — A watch ends when its path is deleted or renamed, and can be re-added (model side)

In every reachable state: handling `IN_IGNORED`, `IN_UNMOUNT`, `IN_DELETE_SELF` or (non-recursive)
`IN_MOVE_SELF` for a listed wd takes the entry out of both tables — the path leaves WatchList,
`Remove` on it reports `ErrNonExistentWatch`, later records for that wd are silent, and the path
can be added again (C08.stored_path_is_clean_arg creates a fresh entry); the MOVE_SELF case also
issues `inotify_rm_watch`. (`self_gone_ends_watch'`; the auxiliary `self_gone_ends_watch` takes the cleanness of the stored
path as a hypothesis, which `reachable_paths_clean` + `Fsn.clean_idem` discharge.) An `IN_ATTRIB` alone (unlink while a descriptor is open) changes no
table and reports Chmod. `IN_DELETE_SELF` reports Remove iff the parent directory's path is not
listed at that moment.
Known gap (finding F5, `late_parent_witness`): "unless the watched parent already did" is
implemented as "unless the parent is listed *now*"; a parent added after the unlink suppresses a
Remove that nobody reported.
-/
namespace C09
open Fsn C12

def endsWatch (m : BitVec 32) : Bool :=
  ignoredOrUnmount m || test m IN_DELETE_SELF || test m IN_MOVE_SELF

theorem dropped (l : Lib) (w : Watch) :
    alLookup w.wd (l.dropWatch w).wdT = none ∧ alLookup w.path (l.dropWatch w).pathT = none :=
  ⟨alLookup_erase_same _ _, alLookup_erase_same _ _⟩

/-- **self gone ends the watch** -/
theorem self_gone_ends_watch {l : Lib} (h : Reachable l) (env : Env) (r : Raw) (w : Watch)
    (hw : alLookup r.wd l.wdT = some w) (hend : endsWatch r.mask = true)
    (hclean : clean w.path = w.path) :
    alLookup r.wd (l.handle env r).lib.wdT = none ∧ alLookup w.path (l.handle env r).lib.pathT = none := by
  obtain ⟨hi, hn⟩ := reachable_inv h
  obtain ⟨⟨g, hl⟩, _⟩ := Lib.handle_spec hi hn env hw hclean
  rw [hl, if_pos (show (Kern.gone r.mask || test r.mask IN_MOVE_SELF) = true from hend), ← (hi.bwd _ _ hw).1]
  exact dropped l w

/-- in every reachable state every stored watch path is a fixed point of `clean` (`filepath.Clean`
as modelled is idempotent: `Fsn.clean_idem`), so re-cleaning it in `removePath` finds the same entry -/
theorem reachable_paths_clean {l : Lib} (h : Reachable l) : l.PathsClean := by
  induction h with
  | init => exact Lib.pathsClean_empty
  | step l env op hr hk ih =>
    obtain ⟨hi, hn⟩ := reachable_inv hr
    cases op with
    | add arg ops nf => exact ih.add env arg ops nf
    | remove arg => exact ih.remove hi hn env _
    | batch rs => exact ih.stepRecords hi hn env rs

/-- **self gone ends the watch**, for every reachable state, without side conditions -/
theorem self_gone_ends_watch' {l : Lib} (h : Reachable l) (env : Env) (r : Raw) (w : Watch)
    (hw : alLookup r.wd l.wdT = some w) (hend : endsWatch r.mask = true) :
    alLookup r.wd (l.handle env r).lib.wdT = none ∧ alLookup w.path (l.handle env r).lib.pathT = none :=
  self_gone_ends_watch h env r w hw hend (reachable_paths_clean h r.wd w hw)

/-- once the watch has ended, `Remove` on its path reports `ErrNonExistentWatch` -/
theorem remove_after_end {l : Lib} (h : Reachable l) (env : Env) (p : Path) (hgone : alLookup (clean p) l.pathT = none) :
    (l.remove env p).2.2.ret = some .nonExistentWatch := by
  rw [Lib.remove_unlisted (reachable_inv h).2.off env hgone]

/-- **the path can be added again**: after the watch has ended, an `Add` of the same spelling that the kernel
answers with a descriptor not in the table (a new one, or the old number again: it is no longer listed) stores a
fresh watch under the cleaned argument — for every reachable state and every ending record -/
theorem readd_after_end {l : Lib} (h : Reachable l) (env : Env) (r : Raw) (w : Watch)
    (hw : alLookup r.wd l.wdT = some w) (hend : endsWatch r.mask = true)
    (arg : Path) (harg : clean arg = w.path) (ops : BitVec 32) (nf : Bool) (wd' : Nat)
    (hk : env.addWatch (clean arg) (inotifyRequest nf ops) = .ok wd')
    (hfresh : alLookup wd' (l.handle env r).lib.wdT = none) :
    alLookup wd' ((l.handle env r).lib.add env arg ops nf).1.wdT
        = some ⟨wd', inotifyRequest nf ops, clean arg, false⟩ ∧
      alLookup (clean arg) ((l.handle env r).lib.add env arg ops nf).1.pathT = some wd' := by
  obtain ⟨_, hp⟩ := self_gone_ends_watch' h env r w hw hend
  exact C08.stored_path_is_clean_arg _ env arg ops nf wd' hk (by rw [harg]; exact hp) hfresh

/-- the old descriptor number itself is a legitimate answer: it is free again -/
theorem readd_same_wd_is_fresh {l : Lib} (h : Reachable l) (env : Env) (r : Raw) (w : Watch)
    (hw : alLookup r.wd l.wdT = some w) (hend : endsWatch r.mask = true) :
    alLookup r.wd (l.handle env r).lib.wdT = none := (self_gone_ends_watch' h env r w hw hend).1

/-- … and later records for the ended watch's wd say nothing and change nothing -/
theorem silent_after_end (l : Lib) (env : Env) (r : Raw) (hgone : alLookup r.wd l.wdT = none) :
    (l.handle env r).out.events = [] ∧ (l.handle env r).lib = l := C02.unknown_wd_silent l env r hgone

/-- **unlink while a descriptor is open**: the kernel only raises `IN_ATTRIB` (link count);
the watch stays exactly as it is and Chmod is reported -/
theorem open_fd_unlink (l : Lib) (env : Env) (wd : Nat) (cookie : BitVec 32) (len : Nat) (nm : List Nat) (w : Watch)
    (hw : alLookup wd l.wdT = some w) :
    let r : Raw := ⟨wd, IN_ATTRIB, cookie, len, nm⟩
    (l.handle env r).lib.wdT = l.wdT ∧ (l.handle env r).lib.pathT = l.pathT ∧
    ∃ e, (l.handle env r).out.events = [e] ∧ e.op = Chmod ∧ e.name = nameOf w r := by
  intro r
  rw [(handle_plain l env r w hw (show plainMask IN_ATTRIB = true by decide)).1, newEvent_eq]
  exact ⟨rfl, rfl, _, rfl, show inotifyNewEventOp IN_ATTRIB = Chmod by decide, rfl⟩

/-- `IN_DELETE_SELF` reports Remove exactly when the parent's path is not listed at that moment -/
theorem delete_self_reports_iff (l : Lib) (env : Env) (wd : Nat) (cookie : BitVec 32) (len : Nat) (nm : List Nat) (w : Watch)
    (hw : alLookup wd l.wdT = some w) :
    let r : Raw := ⟨wd, IN_DELETE_SELF, cookie, len, nm⟩
    ((l.handle env r).out.events = [] ↔ alHas (dir w.path) (l.dropWatch w).pathT = true) := by
  intro r
  have k1 : ignoredOrUnmount IN_DELETE_SELF = false := by decide
  have k2 : test IN_DELETE_SELF IN_MOVE_SELF = false := by decide
  have k3 : test IN_DELETE_SELF IN_DELETE_SELF = true := by decide
  have k4 : ((IN_DELETE_SELF &&& IN_DELETE_SELF) != 0#32) = true := by decide
  have k5 : (inotifyNewEventOp IN_DELETE_SELF == 0#32) = false := by decide
  rw [handle_ordinary_events (r := r) env hw k1 k2, Option.toList_eq_nil_iff, Lib.eventOf_eq_none]
  simp only [Lib.afterDeleteSelf, r, k3, k4, k5, if_true, Bool.true_and, Bool.or_false]

/-- **finding F5** (known, not repaired): file `d/f` listed and unlinked while open; parent `d` added
afterwards; when the descriptor is closed the kernel raises `IN_DELETE_SELF` for `d/f` — and the
library reports nothing, although the parent never reported the removal -/
theorem late_parent_witness :
    let l : Lib := { wdT := [(1, ⟨1, 0xfc6#32, [100, 47, 102], false⟩), (2, ⟨2, 0xfc6#32, [100], false⟩)],
                     pathT := [([100, 47, 102], 1), ([100], 2)] }
    (l.handle { addWatch := fun _ _ => .error "x", marks := [2] } ⟨1, IN_DELETE_SELF, 0#32, 0, []⟩).out.events = [] := by
  decide

end C09
