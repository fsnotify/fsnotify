import FsnVerif.Proofs.InotifyLemmas
import FsnVerif.Proofs.ALLemmas
import FsnVerif.Proofs.BridgeEventOp
/-!
# C02 — No phantom events (model side)

Every event the reader emits has a non-empty operation set and is named after an entry that is
in the wd table when its record is handled; housekeeping records never surface; records for a wd
that is not (or no longer) listed are silent. Partial: that the kernel raises nothing for
unwatched subdirectories and nothing after `inotify_rm_watch` returned except `IN_IGNORED` is the
kernel contract (K2/K3), validated by the live monitors, not proved.
-/
namespace C02
open Fsn

/-- every emitted event has `Op ≠ 0` and the name of a listed watch, or of a direct child of it -/
theorem event_in_scope (l : Lib) (env : Env) (r : Raw) (e : Event) (he : e ∈ (l.stepRecord env r).out.events) :
    e.op ≠ 0#32 ∧ ∃ w, alLookup r.wd l.wdT = some w ∧
      (e.name = w.path ∨ e.name = w.path ++ slash :: trimNul r.name) := by
  obtain ⟨w, hw, hn, _, hop⟩ := stepRecord_event he
  refine ⟨hop, w, hw, ?_⟩
  rw [hn]; unfold nameOf
  split
  · exact Or.inr rfl
  · exact Or.inl rfl

/-- records for a wd that is not listed produce nothing and change nothing -/
theorem unknown_wd_silent (l : Lib) (env : Env) (r : Raw) (h : alLookup r.wd l.wdT = none) :
    (l.handle env r).out.events = [] ∧ (l.handle env r).lib = l := by
  rw [handle_unknown env h]; exact ⟨rfl, rfl⟩

/-- "watch ignored" and "unmount" never surface: the entry is dropped, no event -/
theorem ignored_silent (l : Lib) (env : Env) (r : Raw) (w : Watch) (hw : alLookup r.wd l.wdT = some w)
    (h : ignoredOrUnmount r.mask = true) :
    (l.handle env r).out.events = [] ∧ (l.handle env r).out.errors = [] ∧ (l.handle env r).lib = l.dropWatch w := by
  rw [handle_ignored env hw h]; exact ⟨rfl, rfl, rfl⟩

/-- a record whose mask has none of the twelve event bits (only `IN_ISDIR`, `IN_Q_OVERFLOW`,
`IN_IGNORED`, `IN_UNMOUNT`, control bits) never yields an event -/
theorem housekeeping_silent (l : Lib) (env : Env) (r : Raw) (h : r.mask &&& 0xfff#32 = 0#32) :
    (l.stepRecord env r).out.events = [] := by
  refine List.eq_nil_iff_forall_not_mem.mpr fun e he => ?_
  obtain ⟨_, _, _, hop, hne⟩ := stepRecord_event he
  -- through the regenerated table (`Gen`) on purpose: a change of the Go translation table has to break this proof
  rw [hop, ← Bridge.inotifyNewEventOp_eq, ← BitVec.zero_or (x := r.mask), EventOp.inotify_housekeeping_silent 0#32 r.mask h] at hne
  exact hne (by decide)

/-- after `Remove p` took the entry out of the tables, the wd it had is not listed: further records
for that wd are silent (until the kernel issues the same wd again, which K1 excludes) -/
theorem after_remove_silent (l l' : Lib) (env : Env) (p : Path) (wd : Nat)
    (h : l.removePath p = .ok l' [wd]) (r : Raw) (hr : r.wd = wd) :
    (l'.handle env r).out.events = [] ∧ (l'.handle env r).lib = l' := by
  have hl : alLookup wd l'.wdT = none := by
    cases hrp : recursivePath l.enableRecurse p with | mk path rc =>
    cases hp : alLookup path l.pathT with
    | none => rw [Lib.removePath_unlisted hrp hp] at h; cases h
    | some wd0 =>
      cases hw : alLookup wd0 l.wdT with
      | none => rw [Lib.removePath_dangling hrp hp hw] at h; cases h
      | some w =>
        rw [Lib.removePath_listed hrp hp hw] at h
        split at h
        · cases h
        · split at h <;> injection h with h1 h2
          · cases h2; rw [← h1]; exact alLookup_erase_same _ _
          · -- one descriptor answered: nothing was listed below the root
            simp only [List.cons.injEq, List.map_eq_nil_iff] at h2
            rw [h2.2] at h1
            rw [← h1, ← h2.1]; exact alLookup_erase_same _ _
  apply unknown_wd_silent
  rw [hr]; exact hl

/-- with the parent listed, the child's own `IN_DELETE_SELF` is silent (the parent's `IN_DELETE`
already reported the Remove): the deletion is reported once, not twice -/
theorem delete_self_once (l : Lib) (env : Env) (r : Raw) (w : Watch) (hw : alLookup r.wd l.wdT = some w)
    (hk : ignoredOrUnmount r.mask = false) (hm : test r.mask IN_MOVE_SELF = false)
    (hd : (r.mask &&& IN_DELETE_SELF) != 0#32)
    (hp : alHas (dir w.path) (l.afterDeleteSelf w r).pathT = true) :
    (l.handle env r).out.events = [] := by
  rw [handle_ordinary_events env hw hk hm, Lib.eventOf_eq_none.mpr (by rw [hd, hp]; rfl)]; rfl

end C02
