import FsnVerif.Proofs.InvLemmas
import FsnVerif.Proofs.KernelInv
/-!
# C12 — Kernel watches and bookkeeping stay in step (model side)

`Reachable`: any state the library can be in after any sequence of Add / Remove calls and record
batches, with **arbitrary kernel answers** at every step (only K0: wd 0 is never issued).
In every such state the two tables are inverse to each other with unique keys
(`tables_inverse`); every entry taken out by `Remove` or replaced by a re-pointing `Add` has its
kernel watch released by an `inotify_rm_watch` in the same call (`remove_releases`,
`repoint_releases_old`); entries taken out by the reader are those whose kernel watch the kernel
itself dropped (IGNORED / DELETE_SELF / UNMOUNT, K2) or was released by the MOVE_SELF clean-up
(`Lib.handle_spec`, and on key and mark sets `Kern.read_effect`, both in `Proofs/KernelLemmas`).
The kernel's own mark list is ground truth only at run time: the live stage compares
`/proc/self/fdinfo` with both tables after every quiescent point.
-/
namespace C12
open Fsn

inductive Op
  | add (arg : Path) (ops : BitVec 32) (noFollow : Bool)
  | remove (arg : Path)
  | batch (rs : List Raw)

def apply (l : Lib) (env : Env) : Op → Lib × Out
  | .add arg ops nf => ((l.add env arg ops nf).1, (l.add env arg ops nf).2.2)
  | .remove arg => ((l.remove env (clean arg)).1, (l.remove env (clean arg)).2.2)
  | .batch rs => ((l.stepRecords env rs).1, (l.stepRecords env rs).2.2.1)

/-- every state reachable through the public API, for every kernel behaviour -/
inductive Reachable : Lib → Prop
  | init : Reachable {}
  | step (l : Lib) (env : Env) (op : Op) : Reachable l → env.K0 → Reachable (apply l env op).1

theorem reachable_inv {l : Lib} (h : Reachable l) : l.Inv ∧ l.NoRec := by
  induction h with
  | init => exact ⟨Lib.inv_empty, Lib.norec_empty⟩
  | step l env op _ hk ih =>
    obtain ⟨hi, hn⟩ := ih
    cases op with
    | add arg ops nf => exact hi.add hn env hk arg ops nf
    | remove arg => exact ⟨(hi.remove hn env _).1, (hi.remove hn env _).2.1⟩
    | batch rs => exact ⟨(hi.stepRecords hn env rs).1, (hi.stepRecords hn env rs).2.1⟩

/-- **tables inverse**: `path[p] = wd` iff the wd table has an entry for `wd` whose path is `p` -/
theorem tables_inverse {l : Lib} (h : Reachable l) (p : Path) (wd : Nat) :
    alLookup p l.pathT = some wd ↔ ∃ w, alLookup wd l.wdT = some w ∧ w.path = p := by
  obtain ⟨hi, _⟩ := reachable_inv h
  constructor
  · intro hp; obtain ⟨w, a, b, _⟩ := hi.fwd p wd hp; exact ⟨w, a, b⟩
  · rintro ⟨w, a, b⟩; rw [← b]; exact (hi.bwd wd w a).2

/-- exactly one entry per watch: no key occurs twice in either table, entries carry their own key -/
theorem one_entry_per_watch {l : Lib} (h : Reachable l) :
    (l.wdT.map (·.1)).Nodup ∧ (l.pathT.map (·.1)).Nodup ∧ ∀ wd w, alLookup wd l.wdT = some w → w.wd = wd := by
  obtain ⟨hi, _⟩ := reachable_inv h
  exact ⟨hi.wd_nodup, hi.path_nodup, fun wd w hw => (hi.bwd wd w hw).1⟩

/-- no operation, on any stream, makes the library dereference a missing entry -/
theorem never_panics {l : Lib} (h : Reachable l) (env : Env) (op : Op) : (apply l env op).2.panic = false := by
  obtain ⟨hi, hn⟩ := reachable_inv h
  cases op with
  | add arg ops nf =>
    show (l.register env (clean arg) (inotifyRequest nf ops) false).2.2.panic = false
    cases ha : env.addWatch (clean arg) (l.reqFlags (clean arg) (inotifyRequest nf ops)) with
    | error e => rw [Lib.register_err false ha]
    | ok wd => rw [Lib.register_ok false ha]
  | remove arg => exact (hi.remove hn env _).2.2
  | batch rs => exact (hi.stepRecords hn env rs).2.2

/-- `Remove` of a listed path releases exactly that path's kernel watch, in the same call -/
theorem remove_releases {l : Lib} (h : Reachable l) (env : Env) (arg : Path) (wd : Nat)
    (hp : alLookup (clean arg) l.pathT = some wd) :
    (l.remove env arg).2.2.sys = [Sys.rmWatch wd] ∧ alLookup wd (l.remove env arg).1.wdT = none ∧
    alLookup (clean arg) (l.remove env arg).1.pathT = none := by
  obtain ⟨hi, hn⟩ := reachable_inv h
  obtain ⟨w, _, hww, hwp, he⟩ := Lib.remove_listed hi hn env hp
  rw [he, ← hww, ← hwp]
  exact ⟨rfl, alLookup_erase_same _ _, alLookup_erase_same _ _⟩

/-- a re-pointing `Add` (listed path, kernel answers another wd) releases the old kernel watch -/
theorem repoint_releases_old (l : Lib) (env : Env) (path : Path) (fl : BitVec 32) (old wd : Nat) (w0 : Watch)
    (hp : alLookup path l.pathT = some old) (hw : alLookup old l.wdT = some w0) (hw0 : w0.wd = old)
    (hk : ∀ f, env.addWatch path f = .ok wd) (hne : old ≠ wd) :
    Sys.rmWatch old ∈ (l.register env path fl false).2.2.sys := by
  rw [Lib.register_ok false (hk _)]
  simp only [hp, hw, Option.bind_some, hw0]
  have : (old != wd) = true := by simpa using hne
  simp [this]

/-! ### non-vacuity: the history of finding F2(a) (repaired), step by step -/
def kern (answers : List (Path × Nat)) : Env :=
  { addWatch := fun p _ => match alLookup p answers with | some wd => .ok wd | none => .error "ENOENT", marks := [] }

/-- F2(a): `l0` (→ inode 2) and `d1` (inode 3) listed; `l0` re-pointed to `d1`'s inode; re-Add; Remove -/
example :
    let s1 := (({} : Lib).add (kern [([108, 48], 2)]) [108, 48] 0x1f#32 false).1
    let s2 := (s1.add (kern [([100, 49], 3)]) [100, 49] 0x1f#32 false).1
    let s3 := (s2.add (kern [([108, 48], 3)]) [108, 48] 0x1f#32 false)
    s3.1.watchList = [[100, 49]] ∧ s3.2.2.sys.contains (Sys.rmWatch 2) = true ∧
    (s3.1.remove (kern []) [108, 48]).2.2.ret = some Err.nonExistentWatch ∧
    (s3.1.remove (kern []) [108, 48]).2.2.panic = false := by decide +kernel

/-!
## Library and kernel together (`Model/Kernel`)

The kernel side of one inotify instance — its marks, its notification queue, the order in which it
hands out descriptors — is modelled next to the library, and the statement of C12 becomes a theorem
about every joint state reachable by `Add` / `Remove` calls (with the kernel answering an error,
the inode's existing descriptor or a fresh one), kernel notifications about live marks, marks dying
with their inode or file system, and the reader working through the queue in order. Queue overflow
is outside this model (it discards `IN_IGNORED` records; see C01/C10).
-/
namespace Joint
open Kern

/-- **no orphaned kernel watch, ever**: at every moment every mark of the instance is known to the
library (the kernel watch of a removed or re-pointed path is released in the same call) -/
theorem no_orphan_mark {j : J} (h : Reach j) (wd : Nat) (hm : wd ∈ j.marks) : alHas wd j.lib.wdT = true :=
  (reach_agree h).mark_known wd hm

/-- every descriptor the library knows has a live mark, or the record that ends it is already queued -/
theorem entry_backed {j : J} (h : Reach j) (wd : Nat) (hk : alHas wd j.lib.wdT = true) :
    wd ∈ j.marks ∨ ∃ r, r ∈ j.queue ∧ r.wd = wd ∧ gone r.mask = true :=
  (reach_agree h).known_backed wd hk

/-- **quiescent agreement**: once the queue has been read to the end, the kernel's marks are exactly
the descriptors in the library's table -/
theorem quiescent_agree {j : J} (h : Reach j) (hq : j.queue = []) (wd : Nat) :
    wd ∈ j.marks ↔ alHas wd j.lib.wdT = true := by
  constructor
  · exact no_orphan_mark h wd
  · intro hk
    rcases entry_backed h wd hk with h1 | ⟨r, hr, _, _⟩
    · exact h1
    · rw [hq] at hr; cases hr

/-- … and hence exactly the watches behind `WatchList`: every listed path has a live mark, every
live mark belongs to exactly one listed path -/
theorem quiescent_watchlist {j : J} (h : Reach j) (hq : j.queue = []) :
    (∀ p, p ∈ j.lib.watchList → ∃ wd, alLookup p j.lib.pathT = some wd ∧ wd ∈ j.marks) ∧
    (∀ wd, wd ∈ j.marks → ∃ p, p ∈ j.lib.watchList ∧ alLookup p j.lib.pathT = some wd ∧
      ∀ q, alLookup q j.lib.pathT = some wd → q = p) := by
  have a := reach_agree h
  constructor
  · intro p hp
    obtain ⟨wd, hwd⟩ := mem_keys_iff.mp hp
    obtain ⟨w, hw, _, _⟩ := a.inv.fwd p wd hwd
    exact ⟨wd, hwd, (quiescent_agree h hq wd).mpr (alHas_of_lookup hw)⟩
  · intro wd hm
    obtain ⟨w, hw⟩ := (alHas_iff _ _).mp (no_orphan_mark h wd hm)
    obtain ⟨_, hp⟩ := a.inv.bwd wd w hw
    refine ⟨w.path, mem_keys_of_lookup hp, hp, ?_⟩
    exact fun q hq' => (a.inv.path_of hq' hw).symm

/-- usage is bounded by the live watches: never more marks than table entries -/
theorem marks_bounded {j : J} (h : Reach j) : j.marks.length ≤ j.lib.wdT.length := by
  have a := reach_agree h
  have := a.nodup.length_le_of_subset (l₂ := j.lib.wdT.map (·.1)) fun x hx =>
    mem_keys_iff.mpr ((alHas_iff _ _).mp (a.mark_known x hx))
  simpa using this

/-! non-vacuity: `Add(d)` (fresh mark 1), a change in `d`, `d` is deleted, the reader catches up -/
def jAdd : J := step {} (.add [100] 0x1f#32 false .fresh)
def jDone : J := step (step (step (step (step jAdd (.note { wd := 1, mask := IN_CREATE, cookie := 0#32, len := 16, name := [97] })) (.kill 1 false)) .read) .read) .read

example : jAdd.marks = [1] ∧ jAdd.lib.watchList = [[100]] ∧ (1 ∈ jAdd.marks) := by decide +kernel
example : jDone.queue = [] ∧ jDone.marks = [] ∧ jDone.lib.watchList = [] ∧ jDone.next = 2 := by decide +kernel

end Joint

end C12
