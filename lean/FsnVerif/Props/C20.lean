import FsnVerif.Proofs.DiffSelf
/-!
# C20 — Test-support Diff produces a correct edit script, empty exactly on equality

What is proved (all inputs):
* `splitLines` is injective (its lines concatenate to the text plus one newline), so texts differ
  iff their line lists differ;
* **edit-script correctness**: any opcode list that passes the executable check `validOps`
  (contiguous tiling of both texts, equal ranges really equal, tags consistent with emptiness)
  turns the first text into the second (`edit_script_correct`), and if it consists of `equal`
  opcodes only, the texts are equal (`all_equal_means_equal`);
* the context trimming of `GetGroupedOpCodes` leaves at most `n` unchanged lines at the start of the
  first opcode (`leading_context_le`) and on either side of a split (`split_context_le`); no such bound
  is stated for the trailing trim (`trimLast`);
* **`GetOpCodes` always yields a valid edit script** (`opcodes_always_valid`, all inputs): the block
  `findLongestMatch` returns consists of really equal lines inside its window, `matchBlocks` chains
  such blocks in order, collapsing keeps the chain, and the opcodes read off the chain tile both
  texts. Hence applying `GetOpCodes(a, b)` to `a` gives `b` (`diff_script_turns_a_into_b`);
* **an empty diff means equal texts** (`empty_diff_only_if_equal`, `Diff_empty_only_if_equal`): the
  grouped opcodes are empty only if every opcode is `equal`, and a valid all-equal script means
  the texts are equal — a differing pair can never pass silently.
* **equal texts give an empty diff** (`equal_texts_empty_diff`, `Diff_empty_iff_equal`);
* **the hunks are a correct patch** (`hunks_turn_a_into_b`, all inputs, every amount of context): cutting the
  script into hunks loses nothing but the interior of `equal` runs.
What is validated per case rather than proved for all inputs: the TEXT of a hunk (header arithmetic is
`format_range_spec`; the `-have `/`+want ` prefixes and the lines themselves are compared byte for byte with
the implementation on every generated pair, and the text is parsed back and applied by the harness), and
`DiffMatch`'s placeholder expansion / Go's `regexp` (harness only, partial).
-/
namespace C20
open Diff

theorem splitLines_injective (s t : List Char) (h : splitLines s = splitLines t) : s = t :=
  Diff.splitLines_injective s t h

theorem edit_script_correct (a b : List Line) (ops : List OpCode) (h : validOps a b ops = true) :
    applyOps a b ops = b := apply_valid a b ops h

theorem all_equal_means_equal (a b : List Line) (ops : List OpCode) (h : validOps a b ops = true)
    (hall : ops.all (fun c => c.tag == 'e') = true) : a = b := equal_of_valid_all_equal a b ops h hall

/-- **every** pair of texts: the opcodes `GetOpCodes` produces pass the validity check -/
theorem opcodes_always_valid (a b : List Line) : validOps a b (getOpCodes a b) = true := getOpCodes_valid a b

/-- hence the edit script turns the first text into the second, for every pair of texts -/
theorem diff_script_turns_a_into_b (a b : List Line) : applyOps a b (getOpCodes a b) = b :=
  apply_valid a b _ (getOpCodes_valid a b)

/-- an empty unified diff is produced only for equal line lists -/
theorem empty_diff_only_if_equal (a b : List Line) (h : unifiedDiff a b = []) : a = b := unifiedDiff_nil_eq a b h

/-- `Diff(have, want) == ""` only if `have == want` -/
theorem Diff_empty_only_if_equal (s t : List Char) (h : diff s t = []) : s = t := diff_nil_eq s t h

/-- **equal texts give an empty diff**: matched against itself a text is one block (`flm_self`: the DP
walks the diagonal and the longest block is the whole window), hence one `equal` opcode, no group -/
theorem equal_texts_empty_diff (a : List Line) (hne : a ≠ []) : unifiedDiff a a = [] := unifiedDiff_self a hne

/-- **`Diff` returns the empty string exactly when the two (trimmed) texts are equal** -/
theorem Diff_empty_iff_equal (s t : List Char) : diff s t = [] ↔ s = t :=
  ⟨diff_nil_eq s t, fun h => h ▸ diff_self s⟩

/-- **the hunks are a correct patch**: `GetGroupedOpCodes(n)` cuts the edit script into hunks with `n` lines of
context; copying the first text up to each hunk, applying the hunk and copying what follows the last one
(`applyGroups`: what `patch` does) yields the second text — for every pair of texts and every `n`. What
the hunks leave out is exactly the interior of `equal` runs (`Proofs/DiffGroups`: `groups_apply`) -/
theorem hunks_turn_a_into_b (a b : List Line) (n : Nat) :
    applyGroups a b 0 (groupOpCodes n (getOpCodes a b)) = b :=
  grouped_script_correct a b n _ (getOpCodes_valid a b)

/-- leading context: after `trimFirst n` a leading `equal` opcode spans at most `n` lines (in both texts) -/
theorem leading_context_le (n : Nat) (c : OpCode) (rest : List OpCode) (h : c.tag = 'e') :
    ∃ c', trimFirst n (c :: rest) = c' :: rest ∧ c'.i2 - c'.i1 ≤ n ∧ c'.j2 - c'.j1 ≤ n ∧ c'.i2 = c.i2 ∧ c'.j2 = c.j2 :=
  ⟨c.lastN n, trimFirst_e h n rest, (OpCode.lastN_len n c).1, (OpCode.lastN_len n c).2, rfl, rfl⟩

/-- a long `equal` run is split: its first `n` lines (`tail`, the tail of the group they close) and its last `n`
lines (`head`, the head of the group they open) are kept -/
theorem split_context_le (n : Nat) (acc : List (List OpCode) × List OpCode) (c : OpCode)
    (h : (c.tag == 'e' && c.i2 - c.i1 > n + n) = true) :
    ∃ tail head, groupStep n acc c = (acc.1 ++ [acc.2 ++ [tail]], [head]) ∧
      tail.i2 - tail.i1 ≤ n ∧ head.i2 - head.i1 ≤ n ∧ tail.i1 = c.i1 ∧ head.i2 = c.i2 :=
  ⟨c.firstN n, c.lastN n, groupStep_split h acc, OpCode.firstN_len n c, (OpCode.lastN_len n c).1, rfl, rfl⟩

/-- the range in a hunk header: `start+1,length`, with the conventions for length 1 and 0 -/
theorem format_range_spec (start stop : Nat) :
    formatRange start stop =
      if stop - start == 1 then natStr (start + 1)
      else natStr (if stop - start == 0 then start else start + 1) ++ [','] ++ natStr (stop - start) :=
  -- the definition with its `let`s put in; `start + 1 - 1` reduces to `start`
  rfl

/-! tests: a pair of eleven lines that differ in the second and the tenth, hence two hunks -/
def ta : List Line := ["a\n".toList, "b\n".toList, "c\n".toList, "d\n".toList, "e\n".toList, "f\n".toList, "g\n".toList, "h\n".toList, "i\n".toList, "j\n".toList, "k\n".toList]
def tb : List Line := ["a\n".toList, "B\n".toList, "c\n".toList, "d\n".toList, "e\n".toList, "f\n".toList, "g\n".toList, "h\n".toList, "i\n".toList, "J\n".toList, "k\n".toList]
example : validOps ta tb (getOpCodes ta tb) = true := by decide +kernel
example : (groupOpCodes 3 (getOpCodes ta tb)).length = 2 := by decide +kernel
example : applyOps ta tb (getOpCodes ta tb) = tb := diff_script_turns_a_into_b ta tb
example : unifiedDiff ta ta = [] := by decide +kernel
example : (groupOpCodes 3 (getOpCodes ta tb)).length = 2 ∧ applyGroups ta tb 0 (groupOpCodes 3 (getOpCodes ta tb)) = tb :=
  ⟨by decide +kernel, hunks_turn_a_into_b ta tb 3⟩

end C20
