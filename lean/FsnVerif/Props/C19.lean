import FsnVerif.Proofs.InotifyLemmas
/-!
# C19 — Recursive watches report true paths and cover exactly their own tree (model side)

The two places where the recursive (test-only) feature decides "is this entry inside that
directory" are separator-aware (`atOrBelow`, `hasPrefix p (root ++ "/")`) — after the repair of
finding F3; before it both used a plain string prefix, and `dir1_dir10_before_fix` /
`r_r2_before_fix` exhibit what went wrong.
* a rename `old → new` inside the tree rewrites exactly the entries at or below `old`, to
  `new ++ suffix`, leaves every other entry (siblings sharing a string prefix included) alone,
  keeps the number of entries, and keeps every wd;
* removing a recursive root drops exactly the root and the entries strictly below it;
* a new directory is registered in the very step that produces its Create event (so it is covered
  from the moment that event is delivered).
Partial: which directories exist and what the kernel answers are inputs; bursts (`mkdir -p`) and
moves across the tree boundary are outside the property's quantifier and are not generated.
-/
namespace C19
open Fsn

def P (s : String) : Path := s.toList.map (·.toNat)

/-- rewriting touches exactly the subtree: entry paths at or below `old` become `new ++ suffix`,
all others are unchanged; keys (wds) are unchanged -/
theorem rename_rewrites_exact_subtree (l : Lib) (old new : Path) :
    (l.rewriteAfterRename old new).wdT = l.wdT.map (fun e =>
      if atOrBelow e.2.path old then (e.1, { e.2 with path := new ++ e.2.path.drop old.length }) else e) ∧
    (l.rewriteAfterRename old new).wdT.map (·.1) = l.wdT.map (·.1) := by
  constructor
  · rfl
  · simp only [Lib.rewriteAfterRename, List.map_map]
    apply List.map_congr_left
    intro e _
    simp only [Function.comp]
    split <;> rfl

/-- an entry that is not at or below the renamed directory keeps its path — in particular a sibling
whose name merely starts with the same characters -/
theorem unrelated_sibling_untouched (l : Lib) (old new : Path) (wd : Nat) (w : Watch)
    (hmem : (wd, w) ∈ l.wdT) (hout : atOrBelow w.path old = false) :
    (wd, w) ∈ (l.rewriteAfterRename old new).wdT := by
  simp only [Lib.rewriteAfterRename, List.mem_map]
  exact ⟨(wd, w), hmem, by simp [hout]⟩

/-- `dir10` is not at or below `dir1` (the separator decides), although `"dir1"` is a string prefix of it -/
theorem dir1_dir10 :
    atOrBelow (P "r/dir10/s") (P "r/dir1") = false ∧
    hasPrefix (P "r/dir10/s") (P "r/dir1") = true ∧
    atOrBelow (P "r/dir1/s") (P "r/dir1") = true := by decide +kernel

/-- the F3 history on the model: tree `r/dir1/s`, `r/dir10/s`; `mv r/dir1 r/x` -/
def f3 : Lib := { enableRecurse := true, wdT := [(1, ⟨1, 0xfc6#32, (P "r"), true⟩), (2, ⟨2, 0xfc6#32, (P "r/dir1"), true⟩), (3, ⟨3, 0xfc6#32, (P "r/dir1/s"), true⟩), (4, ⟨4, 0xfc6#32, (P "r/dir10"), true⟩), (5, ⟨5, 0xfc6#32, (P "r/dir10/s"), true⟩)], pathT := [((P "r"), 1), ((P "r/dir1"), 2), ((P "r/dir1/s"), 3), ((P "r/dir10"), 4), ((P "r/dir10/s"), 5)] } 

theorem f3_after_fix :
    ((f3.rewriteAfterRename (P "r/dir1") (P "r/x")).wdT.map fun e => e.2.path) =
      [P "r", P "r/x", P "r/x/s", P "r/dir10", P "r/dir10/s"] ∧
    (f3.rewriteAfterRename (P "r/dir1") (P "r/x")).watchList = [P "r", P "r/dir10", P "r/dir10/s", P "r/x", P "r/x/s"] := by
  decide +kernel

/-- before the repair the test was `strings.HasPrefix(path, old)`: the sibling was renamed too -/
theorem dir1_dir10_before_fix :
    (f3.wdT.map fun e => if hasPrefix e.2.path (P "r/dir1") then replacePrefix e.2.path (P "r/dir1") (P "r/x") else e.2.path) =
      [P "r", P "r/x", P "r/x/s", P "r/x0", P "r/x0/s"] := by decide +kernel

def twoRoots : Lib := { enableRecurse := true, wdT := [(1, ⟨1, 0xfc6#32, (P "r"), true⟩), (2, ⟨2, 0xfc6#32, (P "r/a"), true⟩), (3, ⟨3, 0xfc6#32, (P "r2"), true⟩), (4, ⟨4, 0xfc6#32, (P "r2/q"), true⟩)], pathT := [((P "r"), 1), ((P "r/a"), 2), ((P "r2"), 3), ((P "r2/q"), 4)] } 

/-- removing the recursive root `r` drops `r` and what is below it, and nothing of the root `r2` -/
theorem remove_root_exact_example :
    (match twoRoots.removePath (P "r/...") with
     | .ok l wds => (l.watchList, wds)
     | _ => ([], [])) = ([P "r2", P "r2/q"], [1, 2]) := by decide +kernel

theorem r_r2_before_fix :
    ((twoRoots.pathT.filter fun e => hasPrefix e.1 (P "r")).map (·.2)) = [1, 2, 3, 4] := by decide +kernel

/-- the victims of removing a recursive root are exactly the entries strictly below it -/
theorem remove_root_exact (l : Lib) (root : Path) (wd : Nat) (w : Watch)
    (hp : alLookup root l.pathT = some wd) (hw : alLookup wd l.wdT = some w) (hr : w.recurse = true)
    (hen : l.enableRecurse = true) (hclean : clean (root ++ P "/...") = root ++ P "/...")
    (hbase : base (root ++ P "/...") = P "...") (hdir : dir (root ++ P "/...") = root) :
    ∃ l' wds, l.removePath (root ++ P "/...") = .ok l' wds ∧
      wds = wd :: (((alErase root l.pathT).filter fun e => hasPrefix e.1 (root ++ [slash])).map (·.2)) := by
  have hrp : recursivePath l.enableRecurse (root ++ P "/...") = (root, true) := by
    unfold recursivePath
    simp only [hen, hclean, hbase, hdir, Bool.not_true, Bool.false_eq_true, if_false]
    rfl
  rw [Lib.removePath_listed hrp hp hw, hr]
  exact ⟨_, _, rfl, rfl⟩

/-- **a new directory is covered from the moment its Create is delivered**: the registration
happens in the same `handleEvent` step that returns the Create event, before it is sent -/
theorem new_dir_registered_with_its_create (h : HRes) (w : Watch) (r : Raw) (ev : Event)
    (reg : Lib → Env → Path → BitVec 32 → Bool → Lib × Env × Out)
    (hrec : w.recurse = true) (hdir : test r.mask IN_ISDIR = true) (hev : h.out.events = [ev])
    (hc : opHas ev.op Create = true) (hplain : ev.renamedFrom = []) :
    (Lib.recurseAfter h w r reg).lib = (reg h.lib h.env ev.name w.flags true).1 ∧
    (Lib.recurseAfter h w r reg).out.events = [ev] := by
  unfold Lib.recurseAfter
  simp [hrec, hdir, hev, hc, hplain]

end C19
