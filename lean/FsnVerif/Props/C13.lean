import FsnVerif.Props.C06
/-!
# C13 — Close releases every resource the Watcher acquired (protocol model)

Resources in the model: the inotify file (`fdOpen`; closing it frees every kernel watch of the
instance — kernel contract K6), the reader goroutine (`r ≠ exited`), the three channels it closes.
Partial: that the OS really releases the descriptor and the runtime really ends the goroutine is
measured by the correspondence stage (descriptor and goroutine counts around thousands of
create/use/close cycles), not proved.
-/
namespace C13
open Proto

/-- from every reachable state in which the first Close has marked the watcher closed and closed
the file, system steps alone lead to: goroutine exited, descriptor closed, all channels closed -/
theorem close_releases (s : S) (h : Reach s) (hd : s.doneClosed = true) (hf : s.fdOpen = false) :
    ∃ s', SysRun s s' ∧ s'.r = .exited ∧ s'.fdOpen = false ∧ s'.evClosed = true ∧ s'.erClosed = true := by
  obtain ⟨s', hr, he, hev, her, _⟩ := C06.chans_closed_eventually s h hd hf
  exact ⟨s', hr, he, hr.keeps (fun _ _ _ hf hs => (step_stable hs).1 hf) hf, hev, her⟩

/-- and the Close call that does the work returns only after the reader has started its exit
(`<-doneResp`): when a call sits at `cWait` and returns, `doneResp` is closed -/
theorem close_waits_for_reader (s s' : S) (hc : s.c = .cWait) (hs : step true s .mCWait = some s') :
    s.respClosed = true :=
  (Option.ite_none_right_eq_some.mp hs).1.2

/-- that released state is stable: no step re-opens the file or revives the reader -/
theorem released_stable (s s' : S) (l : Label) (hr : s.r = .exited) (hf : s.fdOpen = false)
    (hs : step true s l = some s') : s'.r = .exited ∧ s'.fdOpen = false :=
  ⟨((step_stable hs).2 hr).1, (step_stable hs).1 hf⟩

/-- **a failed NewWatcher leaks nothing**: in `newBackend` the error return comes directly after
`inotify_init1` and before every allocation (`newShared`, `os.NewFile`, tables, `doneResp`) and
before the `go` statement (regenerated skeleton) -/
theorem failed_new_allocates_nothing :
    (SkeletonTie.lookupFn "newBackend" Gen.skeleton).map (fun ops => ops.map (fun o => (o.kind, o.a))) =
      some [("sys", "InotifyInit1"), ("ifBegin", "%1==-1"), ("ret", "nil, %1"), ("ifEnd", ""),
        ("call", "newShared"), ("fileOp", "NewFile"), ("call", "newWatches"), ("makeChan", "struct{}"),
        ("go", "readEvents"), ("ret", "%1, nil")] := by
  decide +kernel

end C13
