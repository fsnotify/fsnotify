import FsnVerif.Proofs.RingLemmas
import FsnVerif.Proofs.InotifyLemmas
import FsnVerif.Proofs.BridgeRing
/-!
# C11 — Rename correlation: Create carries the old name of the same move, or none

The ring holds exactly the last ten `(cookie, old name)` pairs stored by move-outs
(`ring_is_window`). Hence, under the kernel contract K5 (cookies of distinct moves are distinct
and non-zero), a move-in finds the old name of *its own* move if fewer than ten other move-outs
happened in between, and finds nothing if its cookie was never stored — however many unmatched
move-outs preceded it. The ten-slot bound is part of the statement ("or none").
-/
namespace C11
open Fsn

/-- the cookie code of the source is the code that was modelled (regenerated on every run) -/
theorem ring_source_pinned : Gen.inotifyNewEventOp.residue.length = 1 := by
  rw [Bridge.inotifyNewEventOp_residue]; rfl

theorem newEvent_ring (l : Lib) (name : Path) (mask cookie : BitVec 32) :
    (l.newEvent name mask cookie).1.ring =
      if cookie != 0#32 && test mask IN_MOVED_FROM then l.ring.store cookie name else l.ring := Fsn.newEvent_ring l name mask cookie

theorem newEvent_renamedFrom (l : Lib) (name : Path) (mask cookie : BitVec 32) :
    (l.newEvent name mask cookie).2.renamedFrom =
      if cookie != 0#32 && !test mask IN_MOVED_FROM && test mask IN_MOVED_TO then l.ring.find cookie else [] :=
  Fsn.newEvent_renamedFrom l name mask cookie

/-- a Create that did not result from a move (plain creation, hard link: no `IN_MOVED_TO`) never
carries an old name, whatever the ring holds -/
theorem plain_create_no_old_name (l : Lib) (name : Path) (mask cookie : BitVec 32)
    (h : test mask IN_MOVED_TO = false) : (l.newEvent name mask cookie).2.renamedFrom = [] := by
  rw [newEvent_renamedFrom]; simp [h]

/-- a zero cookie neither stores nor looks up -/
theorem zero_cookie_ignored (l : Lib) (name : Path) (mask : BitVec 32) :
    (l.newEvent name mask 0#32).1.ring = l.ring ∧ (l.newEvent name mask 0#32).2.renamedFrom = [] := by
  rw [newEvent_ring, newEvent_renamedFrom]; simp

/-- the last ten stores, oldest first (zero padded) -/
def lastTen (stores : List Slot) : List Slot := (List.replicate 10 zeroSlot ++ stores).drop stores.length

theorem ring_is_window (stores : List Slot) : (ringOf stores).window = lastTen stores :=
  Fsn.ring_is_window stores

theorem mem_slots_ringOf (stores : List Slot) (s : Slot) : s ∈ (ringOf stores).slots ↔ s ∈ lastTen stores := by
  rw [← Ring.mem_window, ring_is_window]

theorem mem_lastTen {stores : List Slot} {s : Slot} (h : s ∈ lastTen stores) : s = zeroSlot ∨ s ∈ stores :=
  (List.mem_append.mp (List.mem_of_mem_drop h)).imp_left List.eq_of_mem_replicate

/-- **pair found**: the move-in of a move whose move-out is among the last ten stores gets that
move's old name — the very name the Rename event of the move-out carried — provided no other
of the last ten stores used the same cookie (K5) -/
theorem pair_found (stores : List Slot) (c : BitVec 32) (p : Path)
    (hmem : (c, p) ∈ lastTen stores)
    (hdistinct : ∀ s ∈ lastTen stores, s.1 = c → s = (c, p)) :
    (ringOf stores).find c = p :=
  Ring.find_of_unique _ c p ((mem_slots_ringOf ..).mpr hmem) fun s hs => hdistinct s ((mem_slots_ringOf ..).mp hs)

/-- **no false pair**: a move-in whose (non-zero) cookie is not among the last ten stored cookies
gets no old name, however many unmatched move-outs preceded it -/
theorem no_false_pair (stores : List Slot) (c : BitVec 32) (hc : c ≠ 0#32)
    (habsent : ∀ s ∈ stores, s.1 ≠ c) : (ringOf stores).find c = [] := by
  apply Ring.find_of_absent
  intro s hs
  rcases mem_lastTen ((mem_slots_ringOf ..).mp hs) with rfl | h
  · exact hc.symm
  · exact habsent s h

/-- a store is found by the next lookup of its (non-zero) cookie as long as fewer than ten
further stores happened, all stored cookies being distinct from it (K5) -/
theorem pair_found_within_ten (before after : List Slot) (c : BitVec 32) (p : Path)
    (hc : c ≠ 0#32) (hk : after.length < 10)
    (hfresh_before : ∀ s ∈ before, s.1 ≠ c) (hfresh_after : ∀ s ∈ after, s.1 ≠ c) :
    (ringOf (before ++ (c, p) :: after)).find c = p := by
  apply pair_found
  · -- the dropped prefix is shorter than `replicate 10 ++ before`, so `(c,p)` survives
    have hle : (before ++ (c, p) :: after).length ≤ (List.replicate 10 zeroSlot ++ before).length := by
      simp; omega
    unfold lastTen
    rw [← List.append_assoc, List.drop_append_of_le_length hle]
    exact List.mem_append_right _ (by simp)
  · intro s hs hsc
    rcases mem_lastTen hs with rfl | h
    · exact absurd hsc.symm hc
    · rcases List.mem_append.mp h with h | h
      · exact absurd hsc (hfresh_before s h)
      · rcases List.mem_cons.mp h with h | h
        · exact h
        · exact absurd hsc (hfresh_after s h)

/-! tests: a ring after twelve stores; the two oldest are gone, the rest are found -/
def twelve : List Slot := (List.range 12).map fun i => (BitVec.ofNat 32 (100 + i), [i])
example : (ringOf twelve).find 100#32 = [] ∧ (ringOf twelve).find 101#32 = [] ∧
    (ringOf twelve).find 102#32 = [2] ∧ (ringOf twelve).find 111#32 = [11] := by decide +kernel
example : (ringOf twelve).idx = 2 := by decide +kernel

end C11
