import FsnVerif.Proofs.KqFullEvents
/-!
# C18 — kqueue: a watched directory reports each new entry once (model side)

The `seen` set: entries present when the directory was added are marked seen
(`watchDirectoryFiles`), `sendCreateIfNew` reports Create for an entry that is not seen and marks
it, a Remove / Rename notification un-marks it. Hence Create exactly once per new entry, never for
pre-existing ones, again after a removal. Names are the directory's path as the user spelled it
(or the link name), a separator and the entry name.
-/
namespace C18
open Fsn

def child (d e : Path) : Path := d ++ slash :: e

/-- `dirChange(dir)` over the directory listing: Create for every entry not yet seen; every entry
listed is seen afterwards (sockets and named pipes included: finding F7a repaired) -/
def dirChange (seen : List Path) (d : Path) : List Path → List Path × List Path
  | [] => (seen, [])
  | e :: es =>
    let p := child d e
    if seen.contains p then dirChange seen d es
    else
      let r := dirChange (p :: seen) d es
      (r.1, p :: r.2)

/-- `watchDirectoryFiles`: mark everything that exists at Add time -/
def markAll (seen : List Path) (d : Path) (es : List Path) : List Path := es.foldl (fun acc e => child d e :: acc) seen

theorem mem_dirChange_seen (seen : List Path) (d : Path) (es : List Path) (p : Path) :
    p ∈ (dirChange seen d es).1 ↔ p ∈ seen ∨ ∃ e ∈ es, p = child d e := by
  induction es generalizing seen with
  | nil => simp [dirChange]
  | cons x xs ih =>
    unfold dirChange
    dsimp only
    split
    · rename_i hc
      have hc : child d x ∈ seen := by simpa using hc
      rw [ih]
      by_cases hp : p = child d x <;> simp [hp, hc]
    · rw [ih]
      simp only [List.mem_cons, exists_eq_or_imp, or_assoc, or_left_comm]

theorem dirChange_marks (seen : List Path) (d : Path) (es : List Path) (e : Path) (h : e ∈ es) :
    child d e ∈ (dirChange seen d es).1 :=
  (mem_dirChange_seen seen d es _).mpr (.inr ⟨e, h, rfl⟩)

/-- only entries that were not seen are reported, each under `dir/entry` -/
theorem creates_are_new (seen : List Path) (d : Path) (es : List Path) (p : Path) (h : p ∈ (dirChange seen d es).2) :
    p ∉ seen ∧ ∃ e ∈ es, p = child d e := by
  induction es generalizing seen with
  | nil => cases h
  | cons x xs ih =>
    unfold dirChange at h
    simp only at h
    split at h
    · obtain ⟨a, e, he, hp⟩ := ih seen h
      exact ⟨a, e, List.mem_cons_of_mem _ he, hp⟩
    · rename_i hc
      rcases List.mem_cons.mp h with h1 | h1
      · subst h1; exact ⟨by simpa using hc, x, by simp, rfl⟩
      · obtain ⟨a, e, he, hp⟩ := ih _ h1
        exact ⟨fun hh => a (List.mem_cons_of_mem _ hh), e, List.mem_cons_of_mem _ he, hp⟩

/-- **no Create for entries that existed when the watch was added** -/
theorem no_create_for_existing (seen : List Path) (d : Path) (pre es : List Path) (e : Path) (he : e ∈ pre) :
    child d e ∉ (dirChange (markAll seen d pre) d es).2 := fun h =>
  (creates_are_new _ d es _ h).1 (by simpa [markAll] using .inl ⟨e, he, rfl⟩)

/-- **Create exactly once**: a second change of the directory with the same listing reports nothing -/
theorem create_once (seen : List Path) (d : Path) (es : List Path) :
    (dirChange (dirChange seen d es).1 d es).2 = [] := by
  cases hc : (dirChange (dirChange seen d es).1 d es).2 with
  | nil => rfl
  | cons p ps =>
    have hp : p ∈ (dirChange (dirChange seen d es).1 d es).2 := by rw [hc]; simp
    obtain ⟨hn, e, he, rfl⟩ := creates_are_new _ d es p hp
    exact absurd (dirChange_marks seen d es e he) hn

/-- **a name removed and created again is reported again**: after the Remove notification un-marks
it, the next listing that contains it yields Create -/
theorem remove_then_create (seen : List Path) (d : Path) (e : Path) :
    child d e ∈ (dirChange (seen.filter (· != child d e)) d [e]).2 := by
  simp [dirChange]

/-!
## The same clauses over the FULL model of the backend (`Model/KqFull`)

`sendCreateIfNew` is the only place of the backend that synthesises a Create (from `dirChange` for every
entry of a changed directory, and after a Remove for a name that exists again). Whatever the
environment answers (every tape):
-/
namespace Full
open KqF

/-- a Create is delivered for an entry **exactly when it has not been seen**, nothing else is delivered,
the seen set only grows, and a call that succeeds leaves the entry seen -/
theorem create_iff_unseen (path : Path) (k : Kind) (w : W) (hc : w.s.closed = false) (hp : clean path = path) :
    (sendCreateIfNew path k w).2.events = w.events ++ (if w.s.seen.contains path then [] else [⟨path, Create⟩]) ∧
    (sendCreateIfNew path k w).2.errors = w.errors ∧
    (∀ p, p ∈ w.s.seen → p ∈ (sendCreateIfNew path k w).2.s.seen) ∧
    ((sendCreateIfNew path k w).1 = none → path ∈ (sendCreateIfNew path k w).2.s.seen) :=
  let ⟨⟨h1, _, h2, h3⟩, h4⟩ := sendCreateIfNew_spec path k w hc hp
  ⟨h2, h3, h1, h4⟩

/-- **Create exactly once**: after a successful call for an entry, another one for the same entry delivers nothing -/
theorem create_once_full (path : Path) (k k' : Kind) (w : W) (hc : w.s.closed = false) (hp : clean path = path)
    (h1 : (sendCreateIfNew path k w).1 = none) (tape' : List Ans) :
    (sendCreateIfNew path k' { (sendCreateIfNew path k w).2 with tape := tape' }).2.events = (sendCreateIfNew path k w).2.events :=
  KqF.create_once path k k' w hc hp h1 tape'

/-- **a name that is removed and created again is reported again** -/
theorem remove_then_create_full (path : Path) (k : Kind) (w : W) (hc : w.s.closed = false) (hp : clean path = path) :
    (sendCreateIfNew path k (markSeen path false w).2).2.events = w.events ++ [⟨path, Create⟩] :=
  KqF.remove_then_create path k w hc hp

/-- **never for entries that existed when the watch was added**: `Add` delivers nothing at all -/
theorem add_reports_nothing (name : Path) (w : W) : (KqF.add name w).2.events = w.events ∧ (KqF.add name w).2.errors = w.errors :=
  add_silent name w

/-- **a changed directory reports exactly new entries**: whatever the directory holds and whatever the
environment answers (errors included: the loop may stop early), `dirChange` delivers nothing but Creates,
each named `dir/entry` for an entry of the listing it read that had not been seen before — never for an
entry that existed when the watch was added or was reported before (`watchDirectoryFiles` and earlier
`dirChange`s marked those seen) — puts nothing on Errors and forgets nothing it has seen -/
theorem dir_change_reports_only_new (d : Path) (w : W) (hc : w.s.closed = false) :
    (KqF.dirChange d w).2.errors = w.errors ∧ (∀ p, p ∈ w.s.seen → p ∈ (KqF.dirChange d w).2.s.seen) ∧
    ∃ (cs : List Path) (files : List (Path × Except FsErr Kind)),
      (KqF.dirChange d w).2.events = w.events ++ cs.map (fun p => (⟨p, Create⟩ : Ev)) ∧
      ∀ p, p ∈ cs → (∃ f, f ∈ files ∧ p = join d f.1) ∧ p ∉ w.s.seen :=
  let ⟨files, _, _, h2, h3, cs, h4, h5⟩ := dirChange_spec d w hc
  ⟨h2, h3, cs, files, h4, h5⟩

/-- an internal watch never follows a link: it is registered under the (clean) name of the directory entry -/
theorem internal_watch_name (fuel : Nat) (path : Path) (k : Kind) (w : W) (r : Path)
    (h : (internalWatch (addWatch fuel) path k w).1 = .ok r) : r = [] ∨ r = clean path := by
  have := ret_internalWatch fuel path k w
  rw [h] at this
  exact this

end Full

end C18
