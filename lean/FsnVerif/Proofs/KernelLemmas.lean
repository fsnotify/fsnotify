import FsnVerif.Model.Kernel
import FsnVerif.Proofs.CleanLemmas
/-!
# The library's tables and the kernel's marks, step by step

What each library operation does to the key set of the `wd` table and to the kernel's mark set
(through `inotify_rm_watch`), in the form needed for the joint invariant of `Model/Kernel`: read off
`applyAdd_wdT`, `remove_listed` and, for the reader, `handle_spec`.
-/
namespace Fsn
open Kern (gone)

/-- `remove(watch.path)` in the `MOVE_SELF` branch: the clean-up may have taken the entry already -/
theorem Lib.remove_self {l : Lib} (hi : l.Inv) (hn : l.NoRec) (env : Env) {w : Watch} (r : Raw)
    (hww : alLookup w.wd l.wdT = some w) (hc : clean w.path = w.path) :
    ((l.afterDeleteSelf w r).remove env w.path).1 = l.dropWatch w ∧
    ((l.afterDeleteSelf w r).remove env w.path).2.1 = if test r.mask IN_DELETE_SELF then env else (env.rm w.wd).1 := by
  unfold Lib.afterDeleteSelf
  cases test r.mask IN_DELETE_SELF
  · simp only [Bool.false_eq_true, if_false]
    obtain ⟨w', hw', _, _, he⟩ := Lib.remove_listed hi hn env (arg := w.path) (by rw [hc]; exact (hi.bwd _ _ hww).2)
    rw [hww] at hw'; injection hw' with hw'; subst hw'
    rw [he]; exact ⟨rfl, rfl⟩
  · simp only [if_true]
    rw [Lib.remove_unlisted (l := l.dropWatch w) hn.off env (by rw [hc]; exact alLookup_erase_same _ _)]
    exact ⟨rfl, rfl⟩

/-- `hc` holds in every reachable state (`C09.reachable_paths_clean`); the condition under which the entry goes,
`gone r.mask || test r.mask IN_MOVE_SELF`, is `C09.endsWatch` -/
theorem Lib.handle_spec {l : Lib} (hi : l.Inv) (hn : l.NoRec) (env : Env) {r : Raw} {w : Watch}
    (hw : alLookup r.wd l.wdT = some w) (hc : clean w.path = w.path) :
    (∃ g, (l.handle env r).lib = { (if gone r.mask || test r.mask IN_MOVE_SELF then l.dropWatch w else l) with ring := g }) ∧
    (l.handle env r).env = if !gone r.mask && test r.mask IN_MOVE_SELF then (env.rm r.wd).1 else env := by
  have hwd := (hi.bwd _ _ hw).1
  have hww : alLookup w.wd l.wdT = some w := by rw [hwd]; exact hw
  obtain ⟨_, ⟨g, hl⟩, he, _⟩ := Lib.handle_eq hi hn env hw
  obtain ⟨s1, s2⟩ := Lib.remove_self hi hn env r hww hc
  rw [hl, he, s1, s2, hwd]
  unfold gone
  refine ⟨⟨g, ?_⟩, ?_⟩
  · unfold Lib.afterDeleteSelf
    cases ignoredOrUnmount r.mask <;> cases test r.mask IN_MOVE_SELF <;> cases test r.mask IN_DELETE_SELF <;> rfl
  · cases ignoredOrUnmount r.mask <;> cases test r.mask IN_MOVE_SELF <;> cases test r.mask IN_DELETE_SELF <;> rfl

end Fsn

namespace Kern
open Fsn

theorem alHas_of_lookup {κ ν : Type} [DecidableEq κ] {k : κ} {v : ν} {l : List (κ × ν)} (h : alLookup k l = some v) :
    alHas k l = true := (alHas_iff k l).mpr ⟨v, h⟩

theorem applyAdd_has {l : Lib} (h : l.Inv) (path : Path) (fl : BitVec 32) (rc : Bool) {wd : Nat} (hwd : wd ≠ 0) (x : Nat) :
    alHas x (l.applyAdd path fl rc wd).wdT = true ↔
      x = wd ∨ alHas x l.wdT = true ∧ ¬(alLookup path l.pathT = some x ∧ x ≠ wd) := by
  unfold alHas
  rw [h.applyAdd_wdT path fl rc hwd]
  by_cases hx : x = wd
  · simp [hx]
  · by_cases hp : alLookup path l.pathT = some x <;> simp [hx, hp]

theorem rm_marks (env : Env) (hnd : env.marks.Nodup) (wd x : Nat) :
    x ∈ (env.rm wd).1.marks ↔ x ∈ env.marks ∧ x ≠ wd := by
  unfold Env.rm
  split
  · rw [hnd.mem_erase_iff, and_comm]
  · rename_i hc
    exact ⟨fun h => ⟨h, fun e => hc (by simpa [e] using h)⟩, And.left⟩

theorem rm_nodup (env : Env) (hnd : env.marks.Nodup) (wd : Nat) : (env.rm wd).1.marks.Nodup := by
  unfold Env.rm
  split
  · exact hnd.erase _
  · exact hnd

theorem rm_addWatch (env : Env) (wd : Nat) : (env.rm wd).1.addWatch = env.addWatch := by
  unfold Env.rm; split <;> rfl

theorem add_err (l : Lib) (env : Env) (arg : Path) (ops : BitVec 32) (nf : Bool) (e : String)
    (hk : ∀ p f, env.addWatch p f = .error e) :
    (l.add env arg ops nf).1 = l ∧ (l.add env arg ops nf).2.1 = env := by
  rw [Lib.add_eq, Lib.register_err false (hk _ _)]; exact ⟨rfl, rfl⟩

theorem add_ok {l : Lib} (h : l.Inv) (env : Env) (hnd : env.marks.Nodup) (arg : Path) (ops : BitVec 32) (nf : Bool) (wd : Nat)
    (hk : ∀ p f, env.addWatch p f = .ok wd) (hwd : wd ≠ 0) :
    (l.add env arg ops nf).2.2.ret = none ∧
    (∀ x, alHas x (l.add env arg ops nf).1.wdT = true ↔
      x = wd ∨ alHas x l.wdT = true ∧ ¬(alLookup (clean arg) l.pathT = some x ∧ x ≠ wd)) ∧
    (∀ x, x ∈ (l.add env arg ops nf).2.1.marks ↔
      x = wd ∨ x ∈ env.marks ∧ ¬(alLookup (clean arg) l.pathT = some x ∧ x ≠ wd)) ∧
    (l.add env arg ops nf).2.1.marks.Nodup := by
  rw [Lib.add_eq, Lib.register_ok false (hk _ _)]
  simp only
  -- the kernel makes the mark unless the inode has one
  have h1 : ∀ x, x ∈ (if env.marks.contains wd = true then env else { env with marks := wd :: env.marks }).marks ↔
      x = wd ∨ x ∈ env.marks := by
    intro x; split
    · rename_i hc; exact ⟨Or.inr, fun hx => hx.elim (fun e => e ▸ by simpa using hc) id⟩
    · exact List.mem_cons
  have h1n : (if env.marks.contains wd = true then env else { env with marks := wd :: env.marks }).marks.Nodup := by
    split
    · exact hnd
    · rename_i hc; exact List.nodup_cons.mpr ⟨by simpa using hc, hnd⟩
  refine ⟨trivial, applyAdd_has h _ _ _ hwd, ?_⟩
  -- and the library releases the path's previous mark if that is another one
  cases hp : alLookup (clean arg) l.pathT with
  | none => simp only [Option.bind_none]; exact ⟨fun x => by rw [h1]; simp, h1n⟩
  | some k =>
    obtain ⟨w, hw, _, hww⟩ := h.fwd _ _ hp
    simp only [Option.bind_some, hw, hww]
    by_cases hkw : k = wd
    · subst hkw
      rw [if_neg (by simp)]
      exact ⟨fun x => by rw [h1]; simp [eq_comm], h1n⟩
    · rw [if_pos (by simpa using hkw)]
      refine ⟨fun x => ?_, rm_nodup _ h1n k⟩
      rw [rm_marks _ h1n, h1]
      by_cases hx : x = k
      · simp [hx, hkw]
      · simp [hx, Ne.symm hx]

theorem remove_effect {l : Lib} (h : l.Inv) (hn : l.NoRec) (env : Env) (hnd : env.marks.Nodup) (arg : Path) :
    (∀ x, alHas x (l.remove env arg).1.wdT = true ↔ alHas x l.wdT = true ∧ alLookup (clean arg) l.pathT ≠ some x) ∧
    (∀ x, x ∈ (l.remove env arg).2.1.marks ↔ x ∈ env.marks ∧ alLookup (clean arg) l.pathT ≠ some x) ∧
    (l.remove env arg).2.1.marks.Nodup := by
  cases hp : alLookup (clean arg) l.pathT with
  | none => rw [Lib.remove_unlisted hn.off env hp]; simp [hnd]
  | some wd =>
    obtain ⟨w, _, hww, _, he⟩ := Lib.remove_listed h hn env hp
    have hne : ∀ x, some wd ≠ some x ↔ x ≠ wd := fun x => by simp [eq_comm]
    rw [he]
    refine ⟨fun x => ?_, fun x => ?_, rm_nodup env hnd _⟩
    · show alHas x (alErase w.wd l.wdT) = true ↔ _
      rw [alHas_erase_iff, hww, and_comm, hne]
    · rw [rm_marks env hnd, hne]

theorem read_effect {l : Lib} (h : l.Inv) (hn : l.NoRec) (hc : l.PathsClean) (env : Env) (hnd : env.marks.Nodup) (r : Raw) :
    (∀ x, alHas x (l.stepRecord env r).lib.wdT = true ↔
      alHas x l.wdT = true ∧ ¬((gone r.mask || test r.mask IN_MOVE_SELF) = true ∧ x = r.wd)) ∧
    (∀ x, x ∈ (l.stepRecord env r).env.marks ↔
      x ∈ env.marks ∧ ¬(alHas r.wd l.wdT = true ∧ (!gone r.mask && test r.mask IN_MOVE_SELF) = true ∧ x = r.wd)) ∧
    (l.stepRecord env r).env.marks.Nodup := by
  rw [stepRecord_eq]
  cases hw : alLookup r.wd l.wdT with
  | none =>
    have hu : alHas r.wd l.wdT = false := by simp [alHas, hw]
    rw [handle_unknown env hw]
    exact ⟨fun x => ⟨fun hx => ⟨hx, fun hc => by rw [hc.2, hu] at hx; cases hx⟩, And.left⟩, fun x => by simp [hu], hnd⟩
  | some w =>
    obtain ⟨⟨g, hl⟩, he⟩ := Lib.handle_spec h hn env hw (hc _ _ hw)
    rw [hl, he]
    constructor
    · intro x
      cases gone r.mask || test r.mask IN_MOVE_SELF
      · simp
      · simp [Lib.dropWatch, alHas_erase, (h.bwd _ _ hw).1, and_comm]
    · cases !gone r.mask && test r.mask IN_MOVE_SELF
      · simp [hnd]
      · exact ⟨fun x => by simp [rm_marks env hnd, alHas_of_lookup hw], rm_nodup env hnd _⟩

end Kern
