import FsnVerif.Proofs.DiffLemmas
/-!
# `GetOpCodes` always yields a valid edit script (C20)

`findLongestMatch` returns a block of really equal lines inside its window (`flm_ok`); the recursion
`matchBlocks` therefore yields an ordered chain of such blocks (`matchBlocks_ok`); collapsing adjacent
blocks keeps the chain (`collapse_ok`); and the opcodes read off a chain tile both texts with equal
ranges really equal (`opsFrom_valid`). Hence `getOpCodes_valid`, for all inputs.

What the DP of `findLongestMatch` does is said without reference to what it is for: a row maps every cell that
is on (`cellOn`) to its run length `kOf`, and no other (`flmStep_eq`, `flmFold_fst`); `best` is only replaced by the
block of such a cell (`flmFold_best`) and ends at least as long as all of them (`flmFold_size`). `flm_ok` adds that
a stored length is the length of a run (`RunEnd`); `Proofs/DiffSelf`, that against itself the diagonal cell of
row `i` holds `i + 1`.
-/
namespace Diff

/-- `L` equal lines from `(x, y)` on: what `MOk` and `ChainE` say of a block, what `RunEnd` says of a DP cell -/
def Run (a b : List Line) (x y L : Nat) : Prop := ∀ t, t < L → a.getD (x + t) [] = b.getD (y + t) []

theorem Run.zero {a b : List Line} {x y : Nat} : Run a b x y 0 := fun _ h => absurd h (Nat.not_lt_zero _)

theorem Run.append {a b : List Line} {x y L M : Nat} (h1 : Run a b x y L) (h2 : Run a b (x + L) (y + L) M) :
    Run a b x y (L + M) := fun t ht =>
  if hlt : t < L then h1 t hlt else by
    have := h2 (t - L) (Nat.sub_lt_left_of_lt_add (Nat.le_of_not_lt hlt) ht)
    rwa [Nat.add_assoc, Nat.add_assoc, Nat.add_sub_of_le (Nat.le_of_not_lt hlt)] at this

theorem Run.one {a b : List Line} {x y : Nat} (e : a.getD x [] = b.getD y []) : Run a b x y 1 :=
  fun t ht => by rw [Nat.lt_one_iff.mp ht]; exact e

/-- a block of equal lines inside the window `[alo, ahi) × [blo, bhi)` -/
def MOk (a b : List Line) (alo ahi blo bhi : Nat) (m : Match) : Prop :=
  alo ≤ m.a ∧ m.a + m.size ≤ ahi ∧ blo ≤ m.b ∧ m.b + m.size ≤ bhi ∧
  ∀ t, t < m.size → a.getD (m.a + t) [] = b.getD (m.b + t) []

theorem j2get_cons (j k : Nat) (m : List (Nat × Nat)) (x : Nat) :
    j2get ((j, k) :: m) x = if j = x then k else j2get m x := by
  unfold j2get
  rw [List.find?_cons]
  by_cases h : j = x
  · simp [h]
  · simp [h, beq_false_of_ne h]

theorem j2get_map (f : Nat → Nat) (l : List Nat) (x : Nat) :
    j2get (l.map fun y => (y, f y)) x = if x ∈ l then f x else 0 := by
  induction l with
  | nil => rfl
  | cons y l ih =>
    rw [List.map_cons, j2get_cons, ih]
    by_cases h : y = x
    · simp [h]
    · simp [h, Ne.symm h]

theorem j2get_append_left {m : List (Nat × Nat)} {x : Nat} (h : ∀ p, p ∈ m → p.1 ≠ x) (m' : List (Nat × Nat)) :
    j2get (m ++ m') x = j2get m' x := by
  unfold j2get
  rw [List.find?_append, List.find?_eq_none.mpr fun p hp => mt beq_iff_eq.mp (h p hp), Option.none_or]

theorem j2get_append_right (m : List (Nat × Nat)) {m' : List (Nat × Nat)} {x : Nat} (h : ∀ p, p ∈ m' → p.1 ≠ x) :
    j2get (m ++ m') x = j2get m x := by
  unfold j2get
  rw [List.find?_append, List.find?_eq_none (l := m').mpr fun p hp => mt beq_iff_eq.mp (h p hp), Option.or_none]

/-- the run length the DP assigns to cell `(i, x)` -/
def kOf (j2len : List (Nat × Nat)) (x : Nat) : Nat := (if x = 0 then 0 else j2get j2len (x - 1)) + 1

/-- the condition under which `flmStep` touches cell `x` -/
def cellOn (a b : List Line) (i blo bhi x : Nat) : Bool := b.getD x [] == a.getD i [] && decide (blo ≤ x) && decide (x < bhi)

theorem flmStep_eq (a b : List Line) (i blo bhi : Nat) (j2len : List (Nat × Nat)) (acc : List (Nat × Nat) × Match)
    (x : Nat) :
    flmStep a b i blo bhi j2len acc x =
      if cellOn a b i blo bhi x = true then
        (acc.1 ++ [(x, kOf j2len x)],
          if kOf j2len x > acc.2.size then ⟨i + 1 - kOf j2len x, x + 1 - kOf j2len x, kOf j2len x⟩ else acc.2)
      else acc := by
  -- the definition, with the pair's first component, the same in both branches, taken out of the inner `if`
  rw [apply_ite (Prod.mk (acc.1 ++ [(x, kOf j2len x)]))]
  rfl

theorem flmStep_size (a b : List Line) (i blo bhi : Nat) (j2len : List (Nat × Nat)) (acc : List (Nat × Nat) × Match)
    (x : Nat) :
    acc.2.size ≤ (flmStep a b i blo bhi j2len acc x).2.size ∧
    (cellOn a b i blo bhi x = true → kOf j2len x ≤ (flmStep a b i blo bhi j2len acc x).2.size) := by
  rw [flmStep_eq]
  split
  · split
    · exact ⟨Nat.le_of_lt ‹_›, fun _ => Nat.le_refl _⟩
    · exact ⟨Nat.le_refl _, fun _ => Nat.le_of_not_lt ‹_›⟩
  · exact ⟨Nat.le_refl _, fun h => absurd h ‹_›⟩

section row
variable {a b : List Line} {i blo bhi : Nat} {j2len : List (Nat × Nat)}

theorem flmFold_fst (js : List Nat) (acc : List (Nat × Nat) × Match) :
    (js.foldl (flmStep a b i blo bhi j2len) acc).1 =
      acc.1 ++ (js.filter (cellOn a b i blo bhi)).map fun x => (x, kOf j2len x) := by
  induction js generalizing acc with
  | nil => exact (List.append_nil _).symm
  | cons j js ih =>
    rw [List.foldl_cons, ih, flmStep_eq, List.filter_cons]
    split
    · rw [List.map_cons, List.append_assoc]; rfl
    · rfl

theorem flmFold_best {P : Match → Prop}
    (hP : ∀ x, cellOn a b i blo bhi x = true → P ⟨i + 1 - kOf j2len x, x + 1 - kOf j2len x, kOf j2len x⟩)
    (js : List Nat) (acc : List (Nat × Nat) × Match) (h : P acc.2) :
    P (js.foldl (flmStep a b i blo bhi j2len) acc).2 := by
  induction js generalizing acc with
  | nil => exact h
  | cons j js ih =>
    apply ih
    rw [flmStep_eq]
    split
    · split
      · exact hP j ‹_›
      · exact h
    · exact h

theorem flmFold_size (js : List Nat) (acc : List (Nat × Nat) × Match) :
    acc.2.size ≤ (js.foldl (flmStep a b i blo bhi j2len) acc).2.size ∧
    ∀ x, x ∈ js → cellOn a b i blo bhi x = true → kOf j2len x ≤ (js.foldl (flmStep a b i blo bhi j2len) acc).2.size := by
  induction js generalizing acc with
  | nil => exact ⟨Nat.le_refl _, fun _ h => nomatch h⟩
  | cons j js ih =>
    obtain ⟨i1, i2⟩ := ih (flmStep a b i blo bhi j2len acc j)
    obtain ⟨s1, s2⟩ := flmStep_size a b i blo bhi j2len acc j
    refine ⟨Nat.le_trans s1 i1, fun x hx hc => ?_⟩
    rcases List.mem_cons.mp hx with rfl | hx
    · exact Nat.le_trans (s2 hc) i1
    · exact i2 x hx hc

end row

/-- a run of `k` equal lines inside the window that ends just before `(i, j)` -/
def RunEnd (a b : List Line) (alo blo bhi i j k : Nat) : Prop :=
  ∃ x y, x + k = i ∧ y + k = j ∧ alo ≤ x ∧ blo ≤ y ∧ j ≤ bhi ∧ Run a b x y k

theorem RunEnd.succ {a b : List Line} {alo blo bhi i j k : Nat} (h : RunEnd a b alo blo bhi i j k)
    (heq : a.getD i [] = b.getD j []) (hbh : j < bhi) : RunEnd a b alo blo bhi (i + 1) (j + 1) (k + 1) := by
  obtain ⟨x, y, rfl, rfl, h1, h2, _, hr⟩ := h
  exact ⟨x, y, (Nat.add_assoc ..).symm, (Nat.add_assoc ..).symm, h1, h2, hbh, hr.append (.one heq)⟩

theorem RunEnd.mok {a b : List Line} {alo ahi blo bhi i j k : Nat} (h : RunEnd a b alo blo bhi (i + 1) (j + 1) k)
    (hih : i < ahi) : MOk a b alo ahi blo bhi ⟨i + 1 - k, j + 1 - k, k⟩ := by
  obtain ⟨x, y, hx, hy, h1, h2, h3, hr⟩ := h
  rw [← hx, ← hy, Nat.add_sub_cancel, Nat.add_sub_cancel]
  exact ⟨h1, hx ▸ hih, h2, hy ▸ h3, hr⟩

/-- `j2len` is row `i - 1`; ends are exclusive, so the run its cell `j` stands for ends at `(i, j + 1)` -/
theorem runEnd_kOf {a b : List Line} {alo blo bhi i x : Nat} {j2len : List (Nat × Nat)} (hi : alo ≤ i)
    (hprev : ∀ j, j2get j2len j ≠ 0 → RunEnd a b alo blo bhi i (j + 1) (j2get j2len j))
    (hc : cellOn a b i blo bhi x = true) : RunEnd a b alo blo bhi (i + 1) (x + 1) (kOf j2len x) := by
  simp only [cellOn, Bool.and_eq_true, beq_iff_eq, decide_eq_true_eq] at hc
  obtain ⟨⟨heq, hbl⟩, hbh⟩ := hc
  have h0 : RunEnd a b alo blo bhi i x 0 := ⟨i, x, rfl, rfl, hi, hbl, Nat.le_of_lt hbh, Run.zero⟩
  refine RunEnd.succ ?_ heq.symm hbh
  cases x with
  | zero => exact h0
  | succ y =>
    rw [if_neg (Nat.succ_ne_zero y), Nat.add_sub_cancel]
    by_cases hk : j2get j2len y = 0
    · rw [hk]; exact h0
    · exact hprev y hk

theorem range_succ_map_add (n i0 : Nat) :
    (List.range (n + 1)).map (· + i0) = i0 :: (List.range n).map (· + (i0 + 1)) := by
  rw [List.range_succ_eq_map, List.map_cons, List.map_map, Nat.zero_add]
  exact congrArg _ (List.map_congr_left fun x _ => Nat.add_right_comm x 1 i0)

theorem flmRows_ok {a b : List Line} {alo ahi blo bhi : Nat} (n i0 : Nat) (hlo : alo ≤ i0) (hhi : i0 + n ≤ ahi)
    (j2len : List (Nat × Nat)) (best : Match)
    (hprev : ∀ j, j2get j2len j ≠ 0 → RunEnd a b alo blo bhi i0 (j + 1) (j2get j2len j))
    (hb : MOk a b alo ahi blo bhi best) :
    MOk a b alo ahi blo bhi (flmRows a b blo bhi ((List.range n).map (· + i0)) j2len best) := by
  induction n generalizing i0 j2len best with
  | zero => exact hb
  | succ n ih =>
    rw [range_succ_map_add, flmRows]
    have hrun := fun x => runEnd_kOf (x := x) hlo hprev
    have hhi' : i0 + 1 + n ≤ ahi := Nat.add_right_comm i0 n 1 ▸ hhi
    refine ih (i0 + 1) (Nat.le_succ_of_le hlo) hhi' _ _ (fun x hne => ?_)
      (flmFold_best (fun x hc => (hrun x hc).mok (Nat.le_trans (Nat.le_add_right _ n) hhi')) _ _ hb)
    -- row `i0` holds `kOf j2len x` at the cells that are on and nothing else
    rw [flmRow, flmFold_fst, List.nil_append, j2get_map] at hne ⊢
    split at hne
    · rename_i hm; rw [if_pos hm]; exact hrun x (List.mem_filter.mp hm).2
    · exact absurd rfl hne

theorem extendBack_ok {a b : List Line} {alo ahi blo bhi : Nat} (fuel : Nat) (m : Match)
    (h : MOk a b alo ahi blo bhi m) : MOk a b alo ahi blo bhi (extendBack a b alo blo fuel m) := by
  fun_induction extendBack a b alo blo fuel m with
  | case1 => exact h
  | case3 => exact h
  | case2 fuel m hc ih =>
    simp only [Bool.and_eq_true, decide_eq_true_eq, beq_iff_eq] at hc
    obtain ⟨⟨ha, hb⟩, heq⟩ := hc
    obtain ⟨_, h2, _, h4, h5⟩ := h
    -- the block as one that starts a line after `(m.a - 1, m.b - 1)`
    rw [← Nat.sub_add_cancel (Nat.zero_lt_of_lt ha)] at h2 h5
    rw [← Nat.sub_add_cancel (Nat.zero_lt_of_lt hb)] at h4 h5
    exact ih ⟨Nat.le_sub_one_of_lt ha, Nat.add_right_comm (m.a - 1) 1 m.size ▸ h2,
      Nat.le_sub_one_of_lt hb, Nat.add_right_comm (m.b - 1) 1 m.size ▸ h4, Nat.add_comm 1 m.size ▸ (Run.one heq).append h5⟩

theorem extendFwd_ok {a b : List Line} {alo ahi blo bhi : Nat} (fuel : Nat) (m : Match)
    (h : MOk a b alo ahi blo bhi m) : MOk a b alo ahi blo bhi (extendFwd a b ahi bhi fuel m) := by
  fun_induction extendFwd a b ahi bhi fuel m with
  | case1 => exact h
  | case3 => exact h
  | case2 fuel m hc ih =>
    simp only [Bool.and_eq_true, decide_eq_true_eq, beq_iff_eq] at hc
    obtain ⟨⟨ha, hb⟩, heq⟩ := hc
    exact ih ⟨h.1, ha, h.2.2.1, hb, Run.append h.2.2.2.2 (.one heq)⟩

theorem flm_ok (a b : List Line) (alo ahi blo bhi : Nat) (h1 : alo ≤ ahi) (h2 : blo ≤ bhi) :
    MOk a b alo ahi blo bhi (findLongestMatch a b alo ahi blo bhi) :=
  extendFwd_ok _ _ <| extendBack_ok _ _ <|
    flmRows_ok (ahi - alo) alo (Nat.le_refl _) (Nat.le_of_eq (Nat.add_sub_of_le h1)) [] _
      (fun _ h => absurd rfl h) ⟨Nat.le_refl _, h1, Nat.le_refl _, h2, Run.zero⟩

/-- `ms` is an ordered chain of blocks of equal lines lying between `(i, j)` and `(e, f)` -/
inductive ChainE (a b : List Line) : Nat → Nat → List Match → Nat → Nat → Prop
  | nil {i j e f : Nat} : i ≤ e → j ≤ f → ChainE a b i j [] e f
  | cons {i j e f : Nat} {m : Match} {ms : List Match} : i ≤ m.a → j ≤ m.b →
      (∀ t, t < m.size → a.getD (m.a + t) [] = b.getD (m.b + t) []) →
      ChainE a b (m.a + m.size) (m.b + m.size) ms e f → ChainE a b i j (m :: ms) e f

theorem le_of_le_add {i x s e : Nat} (h1 : i ≤ x) (h2 : x + s ≤ e) : i ≤ e :=
  Nat.le_trans h1 (Nat.le_trans (Nat.le_add_right x s) h2)

theorem ChainE.bounds {a b : List Line} {i j e f : Nat} {ms : List Match} (h : ChainE a b i j ms e f) :
    i ≤ e ∧ j ≤ f := by
  induction h with
  | nil h1 h2 => exact ⟨h1, h2⟩
  | cons h1 h2 _ _ ih => exact ⟨le_of_le_add h1 ih.1, le_of_le_add h2 ih.2⟩

theorem ChainE.weakenStart {a b : List Line} {i j i' j' e f : Nat} {ms : List Match}
    (h : ChainE a b i j ms e f) (hi : i' ≤ i) (hj : j' ≤ j) : ChainE a b i' j' ms e f := by
  cases h with
  | nil h1 h2 => exact .nil (Nat.le_trans hi h1) (Nat.le_trans hj h2)
  | cons h1 h2 h3 h4 => exact .cons (Nat.le_trans hi h1) (Nat.le_trans hj h2) h3 h4

theorem ChainE.append {a b : List Line} {i j e f e' f' : Nat} {xs ys : List Match}
    (h1 : ChainE a b i j xs e f) (h2 : ChainE a b e f ys e' f') : ChainE a b i j (xs ++ ys) e' f' := by
  induction h1 with
  | nil g1 g2 => exact h2.weakenStart g1 g2
  | cons g1 g2 g3 _ ih => exact .cons g1 g2 g3 (ih h2)

theorem ChainE.weakenEnd {a b : List Line} {i j e f e' f' : Nat} {ms : List Match}
    (h : ChainE a b i j ms e f) (he : e ≤ e') (hf : f ≤ f') : ChainE a b i j ms e' f' :=
  List.append_nil ms ▸ h.append (.nil he hf)

theorem MOk.single {a b : List Line} {alo ahi blo bhi : Nat} {m : Match} (h : MOk a b alo ahi blo bhi m) :
    ChainE a b m.a m.b [m] (m.a + m.size) (m.b + m.size) :=
  .cons (Nat.le_refl _) (Nat.le_refl _) h.2.2.2.2 (.nil (Nat.le_refl _) (Nat.le_refl _))

/-- what `matchBlocks` is to yield, met where it returns `acc` as it is -/
theorem ChainE.no_blocks {a b : List Line} {i j e f : Nat} (acc : List Match) (hi : i ≤ e) (hj : j ≤ f) :
    ∃ new, acc = acc ++ new ∧ ChainE a b i j new e f := ⟨[], (List.append_nil _).symm, .nil hi hj⟩

/-- … and where it makes a recursive call only if `c` holds -/
theorem ChainE.guard {a b : List Line} {i j e f : Nat} (c : Bool) {acc r : List Match} (hi : i ≤ e) (hj : j ≤ f)
    (h : ∃ new, r = acc ++ new ∧ ChainE a b i j new e f) :
    ∃ new, (if c = true then r else acc) = acc ++ new ∧ ChainE a b i j new e f := by
  split
  · exact h
  · exact no_blocks acc hi hj

theorem matchBlocks_ok (a b : List Line) (fuel : Nat) :
    ∀ (alo ahi blo bhi : Nat) (acc : List Match), alo ≤ ahi → blo ≤ bhi →
      ∃ new, matchBlocks a b fuel alo ahi blo bhi acc = acc ++ new ∧ ChainE a b alo blo new ahi bhi := by
  induction fuel with
  | zero => exact fun _ _ _ _ acc h1 h2 => ChainE.no_blocks acc h1 h2
  | succ fuel ih =>
    intro alo ahi blo bhi acc h1 h2
    have hm := flm_ok a b alo ahi blo bhi h1 h2
    unfold matchBlocks
    generalize findLongestMatch a b alo ahi blo bhi = m at hm ⊢
    have ⟨m1, m2, m3, m4, _⟩ := hm
    dsimp only
    by_cases hs : m.size > 0
    · -- what lies to the left of the block, the block, what lies to the right
      obtain ⟨n1, e1, c1⟩ := ChainE.guard (decide (alo < m.a) && decide (blo < m.b)) m1 m3
        (ih alo m.a blo m.b acc m1 m3)
      rw [if_pos hs, e1]
      obtain ⟨n2, e2, c2⟩ := ChainE.guard (decide (m.a + m.size < ahi) && decide (m.b + m.size < bhi)) m2 m4
        (ih (m.a + m.size) ahi (m.b + m.size) bhi (acc ++ n1 ++ [m]) m2 m4)
      rw [e2]
      exact ⟨n1 ++ [m] ++ n2, by simp, (c1.append hm.single).append c2⟩
    · rw [if_neg hs]; exact ChainE.no_blocks acc h1 h2

/-- the fold of `collapse`: `out` is a chain up to some point, from which `cur :: rest` goes on -/
theorem collapseFold_ok {a b : List Line} {i j e f : Nat} (rest : List Match) :
    ∀ (out : List Match) (cur : Match) {p q : Nat}, ChainE a b i j out p q → ChainE a b p q (cur :: rest) e f →
      ∃ p' q', ChainE a b i j (rest.foldl collapseStep (out, cur)).1 p' q' ∧
        ChainE a b p' q' [(rest.foldl collapseStep (out, cur)).2] e f := by
  induction rest with
  | nil => exact fun _ _ p q c1 c2 => ⟨p, q, c1, c2⟩
  | cons m rest ih =>
    intro out cur p q c1 c2
    cases c2 with | cons g1 g2 g3 g4 =>
    cases g4 with | cons k1 k2 k3 k4 =>
    rw [List.foldl_cons, collapseStep]
    dsimp only
    by_cases hadj : (cur.a + cur.size == m.a && cur.b + cur.size == m.b) = true
    · -- `m` starts where `cur` ends: they become one block
      rw [if_pos hadj]
      simp only [Bool.and_eq_true, beq_iff_eq] at hadj
      refine ih _ _ c1 (.cons g1 g2 (Run.append g3 (hadj.1 ▸ hadj.2 ▸ k3)) ?_)
      show ChainE a b (cur.a + (cur.size + m.size)) (cur.b + (cur.size + m.size)) rest e f
      rw [← Nat.add_assoc, ← Nat.add_assoc, hadj.1, hadj.2]
      exact k4
    · rw [if_neg hadj]
      split
      · exact ih _ _ (c1.append (.cons g1 g2 g3 (.nil (Nat.le_refl _) (Nat.le_refl _)))) (.cons k1 k2 k3 k4)
      · -- an empty `cur` (the initial dummy) is dropped
        exact ih _ _ c1 (.cons (le_of_le_add g1 k1) (le_of_le_add g2 k2) k3 k4)

theorem collapse_ok {a b : List Line} {la lb : Nat} (ms : List Match) (h : ChainE a b 0 0 ms la lb) :
    ∃ cs, collapse la lb ms = cs ++ [⟨la, lb, 0⟩] ∧ ChainE a b 0 0 cs la lb := by
  obtain ⟨p, q, c1, c2⟩ := collapseFold_ok ms [] ⟨0, 0, 0⟩ (.nil (Nat.le_refl 0) (Nat.le_refl 0))
    (.cons (Nat.le_refl _) (Nat.le_refl _) Run.zero h)
  unfold collapse
  dsimp only
  split
  · exact ⟨_, rfl, c1.append c2⟩
  · exact ⟨_, rfl, c1.weakenEnd c2.bounds.1 c2.bounds.2⟩

/-- `opCodesOf` without the accumulator -/
def opsFrom : Nat → Nat → List Match → List OpCode
  | _, _, [] => []
  | i, j, m :: ms => opGap i j m ++ opEq m ++ opsFrom (m.a + m.size) (m.b + m.size) ms

theorem opFold_eq (ms : List Match) (ops : List OpCode) (i j : Nat) :
    (ms.foldl opStep (ops, i, j)).1 = ops ++ opsFrom i j ms := by
  induction ms generalizing ops i j with
  | nil => simp [opsFrom]
  | cons m ms ih =>
    simp only [List.foldl_cons, opStep, opsFrom]
    rw [ih]; simp

theorem opCodesOf_eq (ms : List Match) : opCodesOf ms = opsFrom 0 0 ms := by
  unfold opCodesOf; rw [opFold_eq]; simp

theorem slice_eq_of_run {a b : List Line} {x y n : Nat} (h : Run a b x y n) (ha : x + n ≤ a.length)
    (hb : y + n ≤ b.length) : slice a x (x + n) = slice b y (y + n) := by
  apply List.ext_getElem?
  intro t
  rw [slice, slice, Nat.add_sub_cancel_left, Nat.add_sub_cancel_left, List.getElem?_take, List.getElem?_take]
  split
  · -- inside a text `l[i]?` is `some (l.getD i [])`
    rename_i ht
    rw [List.getElem?_drop, List.getElem?_drop,
      List.getElem?_eq_getElem (Nat.lt_of_lt_of_le (Nat.add_lt_add_left ht x) ha),
      List.getElem?_eq_getElem (Nat.lt_of_lt_of_le (Nat.add_lt_add_left ht y) hb),
      List.getElem_eq_getD [], List.getElem_eq_getD [], h t ht]
  · rfl

theorem valid_gap {a b : List Line} {i j : Nat} {m : Match} {rest : List OpCode} (h1 : i ≤ m.a) (h2 : j ≤ m.b)
    (hr : validFrom a b m.a m.b rest = true) : validFrom a b i j (opGap i j m ++ rest) = true := by
  have hle := (chain_of_validFrom a b rest _ _ hr).le
  rcases Nat.lt_or_eq_of_le h1 with c1 | rfl <;> rcases Nat.lt_or_eq_of_le h2 with c2 | rfl <;>
    simp [opGap, validFrom, *]

theorem valid_eq {a b : List Line} {m : Match} {rest : List OpCode} (hrun : Run a b m.a m.b m.size)
    (hr : validFrom a b (m.a + m.size) (m.b + m.size) rest = true) :
    validFrom a b m.a m.b (opEq m ++ rest) = true := by
  have hle := (chain_of_validFrom a b rest _ _ hr).le
  unfold opEq
  split
  · simp [validFrom, hr, hle, slice_eq_of_run hrun hle.1 hle.2]
  · have hz : m.size = 0 := Nat.eq_zero_of_not_pos ‹_›
    rw [hz] at hr
    exact hr

theorem opsFrom_valid {a b : List Line} {i j : Nat} {cs : List Match}
    (h : ChainE a b i j cs a.length b.length) :
    validFrom a b i j (opsFrom i j (cs ++ [⟨a.length, b.length, 0⟩])) = true := by
  induction cs generalizing i j with
  | nil =>
    rw [List.nil_append, opsFrom, opsFrom, List.append_nil]
    exact valid_gap (m := ⟨a.length, b.length, 0⟩) h.bounds.1 h.bounds.2 (by simp [opEq, validFrom])
  | cons m ms ih =>
    cases h with | cons g1 g2 g3 g4 =>
    rw [List.cons_append, opsFrom, List.append_assoc]
    exact valid_gap g1 g2 (valid_eq g3 (ih g4))

theorem getOpCodes_valid (a b : List Line) : validOps a b (getOpCodes a b) = true := by
  unfold validOps getOpCodes matchingBlocks
  obtain ⟨new, e1, c1⟩ := matchBlocks_ok a b (a.length + b.length + 1) 0 a.length 0 b.length []
    (Nat.zero_le _) (Nat.zero_le _)
  rw [e1, List.nil_append]
  obtain ⟨cs, e2, c2⟩ := collapse_ok new c1
  rw [e2, opCodesOf_eq]
  exact opsFrom_valid c2

end Diff
