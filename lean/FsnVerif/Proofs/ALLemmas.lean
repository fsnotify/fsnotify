import FsnVerif.Model.Inotify
/-! Association lists as Go maps: lookup after insert / erase (one equation each), membership, key lists. -/
namespace Fsn
variable {κ ν : Type} [DecidableEq κ]

theorem alLookup_insert (k k2 : κ) (v : ν) (l : List (κ × ν)) :
    alLookup k2 (alInsert k v l) = if k2 = k then some v else alLookup k2 l := by
  induction l with
  | nil => simp [alInsert, alLookup, eq_comm]
  | cons hd t ih =>
    unfold alInsert
    by_cases hk : hd.1 = k
    · subst hk; by_cases h2 : hd.1 = k2 <;> simp [alLookup, h2, Ne.symm]
    · by_cases h2 : hd.1 = k2
      · subst h2; simp [hk, alLookup]
      · simp [hk, alLookup, h2, ih]

theorem alLookup_erase (k k2 : κ) (l : List (κ × ν)) :
    alLookup k2 (alErase k l) = if k2 = k then none else alLookup k2 l := by
  induction l with
  | nil => simp [alErase, alLookup]
  | cons hd t ih =>
    unfold alErase at ih ⊢
    by_cases hk : hd.1 = k
    · subst hk
      simp only [List.filter_cons, decide_true, Bool.not_true, Bool.false_eq_true, if_false, ih, alLookup]
      split
      · rfl
      · rename_i h; rw [if_neg (Ne.symm h)]
    · by_cases h2 : hd.1 = k2
      · subst h2; simp [hk, alLookup]
      · simp [hk, alLookup, h2, ih]

theorem alLookup_insert_same (k : κ) (v : ν) (l : List (κ × ν)) : alLookup k (alInsert k v l) = some v := by
  simp [alLookup_insert]

theorem alLookup_insert_other (k k2 : κ) (v : ν) (l : List (κ × ν)) (h : k2 ≠ k) :
    alLookup k2 (alInsert k v l) = alLookup k2 l := by simp [alLookup_insert, h]

theorem alLookup_erase_same (k : κ) (l : List (κ × ν)) : alLookup k (alErase k l) = none := by
  simp [alLookup_erase]

theorem alLookup_erase_other (k k2 : κ) (l : List (κ × ν)) (h : k2 ≠ k) :
    alLookup k2 (alErase k l) = alLookup k2 l := by simp [alLookup_erase, h]

theorem alLookup_erase_eq_some {k k2 : κ} {v : ν} {l : List (κ × ν)} :
    alLookup k2 (alErase k l) = some v ↔ k2 ≠ k ∧ alLookup k2 l = some v := by
  by_cases h : k2 = k <;> simp [alLookup_erase, h]

theorem alLookup_insert_eq_some {k k2 : κ} {v v' : ν} {l : List (κ × ν)} :
    alLookup k2 (alInsert k v l) = some v' ↔ (k2 = k ∧ v = v') ∨ (k2 ≠ k ∧ alLookup k2 l = some v') := by
  by_cases h : k2 = k <;> simp [alLookup_insert, h]

theorem alLookup_insert_self (k k2 : κ) (v : ν) (l : List (κ × ν)) (h : alLookup k l = some v) :
    alLookup k2 (alInsert k v l) = alLookup k2 l := by
  by_cases hk : k2 = k <;> simp [alLookup_insert, hk, h]

/-- the shape of both table updates in `Lib.applyAdd` -/
theorem alLookup_ite_erase_insert (c : Prop) [Decidable c] (a b k : κ) (v : ν) (l : List (κ × ν)) :
    alLookup k (if c then alErase a (alInsert b v l) else alInsert b v l) =
      if c ∧ k = a then none else if k = b then some v else alLookup k l := by
  by_cases hc : c <;> simp [hc, alLookup_erase, alLookup_insert]

theorem alErase_idem (k : κ) (l : List (κ × ν)) : alErase k (alErase k l) = alErase k l := by
  simp [alErase]

theorem alHas_iff (k : κ) (l : List (κ × ν)) : alHas k l = true ↔ ∃ v, alLookup k l = some v := by
  unfold alHas; cases alLookup k l <;> simp

theorem alHas_insert (k k2 : κ) (v : ν) (l : List (κ × ν)) :
    alHas k2 (alInsert k v l) = (decide (k2 = k) || alHas k2 l) := by
  by_cases h : k2 = k <;> simp [alHas, alLookup_insert, h]

theorem alHas_erase (k k2 : κ) (l : List (κ × ν)) :
    alHas k2 (alErase k l) = (!decide (k2 = k) && alHas k2 l) := by
  by_cases h : k2 = k <;> simp [alHas, alLookup_erase, h]

theorem alHas_erase_same (k : κ) (l : List (κ × ν)) : alHas k (alErase k l) = false := by
  simp [alHas_erase]

theorem alHas_insert_iff {k k2 : κ} {v : ν} {l : List (κ × ν)} : alHas k2 (alInsert k v l) = true ↔ k2 = k ∨ alHas k2 l = true := by
  simp [alHas_insert]

theorem alHas_erase_iff {k k2 : κ} {l : List (κ × ν)} : alHas k2 (alErase k l) = true ↔ k2 ≠ k ∧ alHas k2 l = true := by
  simp [alHas_erase]

theorem mem_keys_iff {k : κ} {l : List (κ × ν)} : k ∈ l.map (·.1) ↔ ∃ v, alLookup k l = some v := by
  induction l with
  | nil => simp [alLookup]
  | cons hd t ih =>
    by_cases hk : hd.1 = k
    · simp [alLookup, hk]
    · simp [alLookup, hk, ih, Ne.symm hk]

theorem mem_keys_of_lookup {k : κ} {v : ν} {l : List (κ × ν)} (h : alLookup k l = some v) : k ∈ l.map (·.1) :=
  mem_keys_iff.mpr ⟨v, h⟩

theorem lookup_none_iff {k : κ} {l : List (κ × ν)} : alLookup k l = none ↔ k ∉ l.map (·.1) := by
  rw [mem_keys_iff]; cases alLookup k l <;> simp

theorem lookup_none_of_not_mem {k : κ} {l : List (κ × ν)} (h : k ∉ l.map (·.1)) : alLookup k l = none :=
  lookup_none_iff.mpr h

theorem al_empty_of_no_lookup (l : List (κ × ν)) (h : ∀ k v, alLookup k l ≠ some v) : l = [] := by
  cases l with
  | nil => rfl
  | cons hd t =>
    obtain ⟨k, v⟩ := hd
    exact absurd (by simp [alLookup]) (h k v)

def KeysNodup (l : List (κ × ν)) : Prop := (l.map (·.1)).Nodup

theorem KeysNodup.erase {l : List (κ × ν)} (h : KeysNodup l) (k : κ) : KeysNodup (alErase k l) :=
  List.Nodup.sublist (List.Sublist.map _ List.filter_sublist) h

theorem keys_insert (k : κ) (v : ν) (l : List (κ × ν)) :
    (alInsert k v l).map (·.1) = if k ∈ l.map (·.1) then l.map (·.1) else l.map (·.1) ++ [k] := by
  induction l with
  | nil => simp [alInsert]
  | cons hd t ih =>
    obtain ⟨k', v'⟩ := hd
    unfold alInsert
    by_cases hk : k' = k
    · subst hk; simp
    · simp only [hk, if_false, List.map_cons, ih, List.mem_cons]
      have : ¬ k = k' := fun h => hk h.symm
      by_cases hm : k ∈ t.map (·.1)
      · simp [hm]
      · simp [hm, this]

theorem KeysNodup.insert {l : List (κ × ν)} (h : KeysNodup l) (k : κ) (v : ν) : KeysNodup (alInsert k v l) := by
  unfold KeysNodup at *
  rw [keys_insert]
  split
  · exact h
  · rename_i hm
    exact List.nodup_append.mpr ⟨h, by simp, by
      intro a ha b hb
      simp only [List.mem_singleton] at hb
      subst hb
      exact fun hab => hm (hab ▸ ha)⟩

theorem KeysNodup.ite_erase_insert {l : List (κ × ν)} (h : KeysNodup l)
    (c : Prop) [Decidable c] (k a : κ) (b : ν) :
    KeysNodup (if c then alErase k (alInsert a b l) else alInsert a b l) := by
  split
  · exact (h.insert _ _).erase _
  · exact h.insert _ _

end Fsn
