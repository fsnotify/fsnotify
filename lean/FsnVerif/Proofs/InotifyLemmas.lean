import FsnVerif.Model.Inotify
/-! The functions of `Model/Inotify` are used through the statements here rather than unfolded. Equations: `register` by the
kernel's answer, `removePath` by what is listed, `newEvent_eq`, the branches of `Lib.handle`, `stepRecord_eq`. `emit_eq` and
`afterMoveSelf_eq` are existentials: they leave open the ring and the branch label (and bound what goes on Errors by what
`remove` answered). What one record and whole batches (`Lib.stepRecords`) produce is read off them. -/
namespace Fsn

theorem Lib.add_eq (l : Lib) (env : Env) (arg : Path) (ops : BitVec 32) (nf : Bool) :
    l.add env arg ops nf = l.register env (clean arg) (inotifyRequest nf ops) false := rfl

/-- the flags `register` asks the kernel for: those of the entry already listed under the path are kept (`IN_MASK_ADD`) -/
def Lib.reqFlags (l : Lib) (path : Path) (flags : BitVec 32) : BitVec 32 :=
  match (alLookup path l.pathT).bind (fun wd => alLookup wd l.wdT) with
  | some e => flags ||| e.flags ||| IN_MASK_ADD
  | none => flags

theorem Lib.reqFlags_unlisted {l : Lib} {path : Path} (h : alLookup path l.pathT = none) (flags : BitVec 32) :
    l.reqFlags path flags = flags := by
  unfold Lib.reqFlags; rw [h]; rfl

theorem Lib.register_err {l : Lib} {env : Env} {path : Path} {flags : BitVec 32} {e : String} (rc : Bool)
    (hk : env.addWatch path (l.reqFlags path flags) = .error e) :
    l.register env path flags rc = (l, env, { ret := some (.errno e), sys := [.addWatch path (l.reqFlags path flags)] }) := by
  -- `register` is a `match` on the kernel's answer to this request
  show (match env.addWatch path (l.reqFlags path flags) with | .error e => _ | .ok wd => _) = _
  rw [hk]; rfl

theorem Lib.register_ok {l : Lib} {env : Env} {path : Path} {flags : BitVec 32} {wd : Nat} (rc : Bool)
    (hk : env.addWatch path (l.reqFlags path flags) = .ok wd) :
    l.register env path flags rc =
      let env1 := if env.marks.contains wd then env else { env with marks := wd :: env.marks }
      let rel : Env × List Sys := match (alLookup path l.pathT).bind (fun k => alLookup k l.wdT) with
        | some e => if e.wd != wd then ((env1.rm e.wd).1, [.rmWatch e.wd]) else (env1, [])
        | none => (env1, [])
      (l.applyAdd path (l.reqFlags path flags) rc wd, rel.1, { sys := .addWatch path (l.reqFlags path flags) :: rel.2 }) := by
  show (match env.addWatch path (l.reqFlags path flags) with | .error e => _ | .ok wd => _) = _
  rw [hk]; rfl

theorem newEvent_eq (l : Lib) (n : Path) (m c : BitVec 32) :
    l.newEvent n m c =
      ({ l with ring := if c != 0#32 && test m IN_MOVED_FROM then l.ring.store c n else l.ring },
       { name := n, op := inotifyNewEventOp m,
         renamedFrom := if c != 0#32 && !test m IN_MOVED_FROM && test m IN_MOVED_TO then l.ring.find c else [] }) := by
  unfold Lib.newEvent
  cases c != 0#32 <;> cases test m IN_MOVED_FROM <;> cases test m IN_MOVED_TO <;> rfl

theorem newEvent_op (l : Lib) (n : Path) (m c : BitVec 32) : (l.newEvent n m c).2.op = inotifyNewEventOp m := by
  rw [newEvent_eq]

theorem newEvent_name (l : Lib) (n : Path) (m c : BitVec 32) : (l.newEvent n m c).2.name = n := by rw [newEvent_eq]

theorem newEvent_ring (l : Lib) (name : Path) (mask cookie : BitVec 32) :
    (l.newEvent name mask cookie).1.ring =
      if cookie != 0#32 && test mask IN_MOVED_FROM then l.ring.store cookie name else l.ring := by rw [newEvent_eq]

theorem newEvent_renamedFrom (l : Lib) (name : Path) (mask cookie : BitVec 32) :
    (l.newEvent name mask cookie).2.renamedFrom =
      if cookie != 0#32 && !test mask IN_MOVED_FROM && test mask IN_MOVED_TO then l.ring.find cookie else [] := by
  rw [newEvent_eq]

/-- the event a record on watch `w` yields in state `l`: none for a `DELETE_SELF` whose parent is listed (the
parent's `IN_DELETE` reports it) and none for an empty translation -/
def Lib.eventOf (l : Lib) (w : Watch) (r : Raw) : Option Event :=
  if ((r.mask &&& IN_DELETE_SELF) != 0#32 && alHas (dir w.path) l.pathT) || inotifyNewEventOp r.mask == 0#32 then none
  else some (l.newEvent (nameOf w r) r.mask r.cookie).2

theorem Lib.eventOf_some {l : Lib} {w : Watch} {r : Raw} {e : Event} (h : l.eventOf w r = some e) :
    e.name = nameOf w r ∧ e.op = inotifyNewEventOp r.mask ∧ e.op ≠ 0#32 := by
  unfold Lib.eventOf at h
  split at h
  · cases h
  · rename_i hc
    injection h with h; subst h
    simp only [Bool.or_eq_true, not_or, beq_iff_eq] at hc
    exact ⟨newEvent_name .., newEvent_op .., by rw [newEvent_op]; exact hc.2⟩

theorem Lib.eventOf_eq_none {l : Lib} {w : Watch} {r : Raw} :
    l.eventOf w r = none ↔
      (((r.mask &&& IN_DELETE_SELF) != 0#32 && alHas (dir w.path) l.pathT) || inotifyNewEventOp r.mask == 0#32) = true := by
  unfold Lib.eventOf
  split <;> simp [*]

theorem emit_eq (l : Lib) (env : Env) (out : Out) (br : Branch) (w : Watch) (r : Raw) :
    ∃ g br', l.emit env out br w r =
      ⟨{ l with ring := g }, env, { out with events := match l.eventOf w r with | none => out.events | some e => [e] }, br'⟩ := by
  unfold Lib.emit Lib.eventOf
  cases ((r.mask &&& IN_DELETE_SELF) != 0#32 && alHas (dir w.path) l.pathT)
  · simp only [Bool.false_eq_true, if_false, Bool.false_or, newEvent_eq]
    cases inotifyNewEventOp r.mask == 0#32 <;> exact ⟨_, _, rfl⟩
  · exact ⟨l.ring, _, rfl⟩

theorem emit_errors (l : Lib) (env : Env) (out : Out) (br : Branch) (w : Watch) (r : Raw) :
    (l.emit env out br w r).out.errors = out.errors := by
  obtain ⟨_, _, h⟩ := emit_eq l env out br w r; rw [h]

theorem emit_panic (l : Lib) (env : Env) (out : Out) (br : Branch) (w : Watch) (r : Raw) :
    (l.emit env out br w r).out.panic = out.panic := by
  obtain ⟨_, _, h⟩ := emit_eq l env out br w r; rw [h]

theorem emit_events (l : Lib) (env : Env) (out : Out) (br : Branch) (w : Watch) (r : Raw) :
    (l.emit env out br w r).out.events = match l.eventOf w r with | none => out.events | some e => [e] := by
  obtain ⟨_, _, h⟩ := emit_eq l env out br w r; rw [h]

theorem recurseAfter_frame (h : HRes) (w : Watch) (r : Raw) (reg : Lib → Env → Path → BitVec 32 → Bool → Lib × Env × Out) :
    (Lib.recurseAfter h w r reg).out.events = h.out.events ∧ (Lib.recurseAfter h w r reg).out.panic = h.out.panic := by
  unfold Lib.recurseAfter
  split
  · split
    · split <;> exact ⟨rfl, rfl⟩
    · exact ⟨rfl, rfl⟩
  · exact ⟨rfl, rfl⟩

theorem recurseAfter_events (h : HRes) (w : Watch) (r : Raw) (reg : Lib → Env → Path → BitVec 32 → Bool → Lib × Env × Out) :
    (Lib.recurseAfter h w r reg).out.events = h.out.events := (recurseAfter_frame h w r reg).1

theorem recurseAfter_panic (h : HRes) (w : Watch) (r : Raw) (reg : Lib → Env → Path → BitVec 32 → Bool → Lib × Env × Out) :
    (Lib.recurseAfter h w r reg).out.panic = h.out.panic := (recurseAfter_frame h w r reg).2

theorem recurseAfter_norec (h : HRes) (w : Watch) (r : Raw) (reg : Lib → Env → Path → BitVec 32 → Bool → Lib × Env × Out)
    (hw : w.recurse = false) : Lib.recurseAfter h w r reg = h := by
  unfold Lib.recurseAfter
  simp [hw]

theorem recurseAfter_nodir (h : HRes) (w : Watch) (r : Raw) (reg : Lib → Env → Path → BitVec 32 → Bool → Lib × Env × Out)
    (hd : test r.mask IN_ISDIR = false) : Lib.recurseAfter h w r reg = h := by
  unfold Lib.recurseAfter
  simp [hd]

section removePath
variable {l : Lib} {arg path : Path} {rc : Bool} {wd : Nat} {w : Watch} (hrp : recursivePath l.enableRecurse arg = (path, rc))
include hrp

theorem Lib.removePath_unlisted (hp : alLookup path l.pathT = none) : l.removePath arg = .err .nonExistentWatch := by
  unfold Lib.removePath; rw [hrp]; simp only [hp]

theorem Lib.removePath_dangling (hp : alLookup path l.pathT = some wd) (hw : alLookup wd l.wdT = none) :
    l.removePath arg = .panic (if rc then l else { l with pathT := alErase path l.pathT, wdT := alErase wd l.wdT }) := by
  unfold Lib.removePath; rw [hrp]; simp only [hp, hw]; split <;> rfl

theorem Lib.removePath_listed (hp : alLookup path l.pathT = some wd) (hw : alLookup wd l.wdT = some w) :
    l.removePath arg =
      if rc && !w.recurse then .err .badRecurse
      else if !w.recurse then .ok { l with pathT := alErase path l.pathT, wdT := alErase wd l.wdT } [wd]
      else .ok (((alErase path l.pathT).filter fun e => hasPrefix e.1 (path ++ [slash])).foldl
          (fun (acc : Lib) e => { acc with pathT := alErase e.1 acc.pathT, wdT := alErase e.2 acc.wdT })
          { l with pathT := alErase path l.pathT, wdT := alErase wd l.wdT })
        (wd :: ((alErase path l.pathT).filter fun e => hasPrefix e.1 (path ++ [slash])).map (·.2)) := by
  unfold Lib.removePath; rw [hrp]; simp only [hp, hw]

end removePath

theorem Lib.remove_unlisted {l : Lib} (hoff : l.enableRecurse = false) (env : Env) {arg : Path}
    (hp : alLookup (clean arg) l.pathT = none) : l.remove env arg = (l, env, { ret := some .nonExistentWatch }) := by
  unfold Lib.remove; rw [Lib.removePath_unlisted (by rw [hoff]; rfl) hp]

theorem rmAll_error (env : Env) (wds : List Nat) :
    (rmAll env wds).2.2 = none ∨ (rmAll env wds).2.2 = some (.errno "EINVAL") := by
  induction wds generalizing env with
  | nil => exact Or.inl rfl
  | cons wd rest ih =>
    unfold rmAll
    cases h : env.rm wd with
    | mk env' ok =>
      cases ok
      · exact Or.inr rfl
      · exact ih env'

/-- what `remove` can answer with recursion disabled (the public API): nil, `ErrNonExistentWatch`, or `EINVAL` from the
kernel (K3: the mark is already gone) -/
theorem Lib.remove_ret (l : Lib) (env : Env) (p : Path) (hrec : l.enableRecurse = false) :
    (l.remove env p).2.2.ret = none ∨ (l.remove env p).2.2.ret = some .nonExistentWatch ∨
    (l.remove env p).2.2.ret = some (.errno "EINVAL") := by
  have hrp : recursivePath l.enableRecurse p = (clean p, false) := by rw [hrec]; rfl
  unfold Lib.remove
  cases hp : alLookup (clean p) l.pathT with
  | none => rw [Lib.removePath_unlisted hrp hp]; exact Or.inr (Or.inl rfl)
  | some wd =>
    cases hw : alLookup wd l.wdT with
    | none => rw [Lib.removePath_dangling hrp hp hw]; exact Or.inl rfl
    | some w =>
      rw [Lib.removePath_listed hrp hp hw]
      cases w.recurse <;> simp only [Bool.false_and, Bool.not_false, Bool.not_true, Bool.false_eq_true, reduceIte] <;>
        exact (rmAll_error env _).imp_right Or.inr

theorem remove_events (l : Lib) (env : Env) (p : Path) : (l.remove env p).2.2.events = [] := by
  unfold Lib.remove; split <;> rfl

theorem remove_errors (l : Lib) (env : Env) (p : Path) : (l.remove env p).2.2.errors = [] := by
  unfold Lib.remove; split <;> rfl

theorem afterMoveSelf_eq (l1 : Lib) (env : Env) (w : Watch) (r : Raw) (hp : (l1.remove env w.path).2.2.panic = false) :
    ∃ errs br, l1.afterMoveSelf env w r =
        (l1.remove env w.path).1.emit (l1.remove env w.path).2.1 { sys := (l1.remove env w.path).2.2.sys, errors := errs } br w r ∧
      ∀ e ∈ errs, (l1.remove env w.path).2.2.ret = some e ∧ e ≠ .nonExistentWatch ∧ e ≠ .errno "EINVAL" := by
  unfold Lib.afterMoveSelf
  simp only [hp, Bool.false_eq_true, if_false]
  split
  · exact ⟨[], _, rfl, by simp⟩
  · exact ⟨[], _, rfl, by simp⟩
  · rename_i e hne he
    split
    · exact ⟨[], _, rfl, by simp⟩
    · rename_i hne2
      refine ⟨[e], _, rfl, ?_⟩
      intro e' he'
      simp only [List.mem_singleton] at he'; subst he'
      exact ⟨he, hne, fun h => hne2 (by simp [h])⟩

theorem afterMoveSelf_quiet (l1 : Lib) (env : Env) (w : Watch) (r : Raw) (hoff : l1.enableRecurse = false)
    (hp : (l1.remove env w.path).2.2.panic = false) :
    ∃ br, l1.afterMoveSelf env w r =
      (l1.remove env w.path).1.emit (l1.remove env w.path).2.1 { sys := (l1.remove env w.path).2.2.sys } br w r := by
  obtain ⟨errs, br, he, herrs⟩ := afterMoveSelf_eq l1 env w r hp
  cases errs with
  | nil => exact ⟨br, he⟩
  | cons e t =>
    obtain ⟨h1, h2, h3⟩ := herrs e (by simp)
    rcases Lib.remove_ret l1 env w.path hoff with h | h | h <;> rw [h] at h1 <;> cases h1
    · exact absurd rfl h2
    · exact absurd rfl h3

theorem handle_unknown {l : Lib} {r : Raw} (env : Env) (h : alLookup r.wd l.wdT = none) :
    l.handle env r = ⟨l, env, {}, .unknownWd⟩ := by
  unfold Lib.handle; rw [h]

theorem handle_ignored {l : Lib} {r : Raw} {w : Watch} (env : Env) (hw : alLookup r.wd l.wdT = some w)
    (h : ignoredOrUnmount r.mask = true) : l.handle env r = ⟨l.dropWatch w, env, {}, .ignored⟩ := by
  unfold Lib.handle; rw [hw]; simp only [h, if_true]

theorem handle_moveSelf {l : Lib} {r : Raw} {w : Watch} (env : Env) (hw : alLookup r.wd l.wdT = some w)
    (hk : ignoredOrUnmount r.mask = false) (hm : test r.mask IN_MOVE_SELF = true) :
    l.handle env r = if w.recurse then ⟨l.afterDeleteSelf w r, env, {}, .moveSelfRecursive⟩
      else (l.afterDeleteSelf w r).afterMoveSelf env w r := by
  unfold Lib.handle; rw [hw]; simp only [hk, hm, Bool.false_eq_true, if_false, if_true]

theorem handle_ordinary {l : Lib} {r : Raw} {w : Watch} (env : Env) (hw : alLookup r.wd l.wdT = some w)
    (hk : ignoredOrUnmount r.mask = false) (hm : test r.mask IN_MOVE_SELF = false) :
    l.handle env r = Lib.recurseAfter ((l.afterDeleteSelf w r).emit env {}
      (if test r.mask IN_DELETE_SELF then .deleteSelf else .plain) w r) w r Lib.register := by
  unfold Lib.handle; rw [hw]; simp only [hk, hm, Bool.false_eq_true, if_false]

theorem handle_ordinary_events {l : Lib} {r : Raw} {w : Watch} (env : Env) (hw : alLookup r.wd l.wdT = some w)
    (hk : ignoredOrUnmount r.mask = false) (hm : test r.mask IN_MOVE_SELF = false) :
    (l.handle env r).out.events = ((l.afterDeleteSelf w r).eventOf w r).toList := by
  rw [handle_ordinary env hw hk hm, recurseAfter_events, emit_events]
  cases (l.afterDeleteSelf w r).eventOf w r <;> rfl

theorem stepRecord_eq (l : Lib) (env : Env) (r : Raw) :
    l.stepRecord env r = { l.handle env r with out := { (l.handle env r).out with errors :=
      if (r.mask &&& IN_Q_OVERFLOW) != 0#32 then .overflow :: (l.handle env r).out.errors else (l.handle env r).out.errors } } := by
  unfold Lib.stepRecord; simp only; split <;> rfl

theorem stepRecord_events (l : Lib) (env : Env) (r : Raw) :
    (l.stepRecord env r).out.events = (l.handle env r).out.events := by rw [stepRecord_eq]

/-- the masks the reader passes straight to `newEvent`: not housekeeping, no self-move or self-delete, not about a
directory, no overflow bit, a non-empty translation. For a constant mask `plainMask m = true` is `by decide`.
`IN_DELETE_SELF` is tested twice because `handleEvent` tests it twice, as `mask&F == F` and as `mask&F != 0`, and the model
mirrors both spellings. -/
def plainMask (m : BitVec 32) : Bool :=
  !ignoredOrUnmount m && !test m IN_MOVE_SELF && !test m IN_DELETE_SELF && !((m &&& IN_DELETE_SELF) != 0#32) &&
  !(inotifyNewEventOp m == 0#32) && !test m IN_ISDIR && !((m &&& IN_Q_OVERFLOW) != 0#32)

theorem handle_plain (l : Lib) (env : Env) (r : Raw) (w : Watch) (hw : alLookup r.wd l.wdT = some w)
    (hm : plainMask r.mask = true) :
    l.handle env r = ⟨(l.newEvent (nameOf w r) r.mask r.cookie).1, env,
      { events := [(l.newEvent (nameOf w r) r.mask r.cookie).2] }, .plain⟩ ∧ l.stepRecord env r = l.handle env r := by
  simp only [plainMask, Bool.and_eq_true, Bool.not_eq_true'] at hm
  obtain ⟨⟨⟨⟨⟨⟨hk, hmv⟩, hd⟩, hd'⟩, hop⟩, hnd⟩, ho⟩ := hm
  refine ⟨?_, by rw [stepRecord_eq, ho]; rfl⟩
  rw [handle_ordinary env hw hk hmv, recurseAfter_nodir _ w r _ hnd]
  simp only [Lib.afterDeleteSelf, Lib.emit, hd, hd', newEvent_op, hop, Bool.false_eq_true, if_false, Bool.false_and]

/-- `L` is the state the branch has reached when it calls `emit`: after the `DELETE_SELF` clean-up and, for `MOVE_SELF`,
after `remove` -/
theorem handle_events (l : Lib) (env : Env) (r : Raw) :
    (l.handle env r).out.events = [] ∨
    ∃ w L, alLookup r.wd l.wdT = some w ∧ (l.handle env r).out.events = (Lib.eventOf L w r).toList := by
  rcases Option.eq_none_or_eq_some (alLookup r.wd l.wdT) with hw | ⟨w, hw⟩
  · rw [handle_unknown env hw]; exact Or.inl rfl
  cases hk : ignoredOrUnmount r.mask with
  | true => rw [handle_ignored env hw hk]; exact Or.inl rfl
  | false =>
    cases hm : test r.mask IN_MOVE_SELF with
    | false => exact Or.inr ⟨w, _, hw, handle_ordinary_events env hw hk hm⟩
    | true =>
      rw [handle_moveSelf env hw hk hm]
      split
      · exact Or.inl rfl
      · cases hp : ((l.afterDeleteSelf w r).remove env w.path).2.2.panic with
        | true => left; unfold Lib.afterMoveSelf; simp only [hp, if_true]; exact remove_events ..
        | false =>
          obtain ⟨errs, br, he, _⟩ := afterMoveSelf_eq (l.afterDeleteSelf w r) env w r hp
          refine Or.inr ⟨w, ((l.afterDeleteSelf w r).remove env w.path).1, hw, ?_⟩
          rw [he, emit_events]
          cases Lib.eventOf _ w r <;> rfl

theorem stepRecord_event {l : Lib} {env : Env} {r : Raw} {e : Event} (he : e ∈ (l.stepRecord env r).out.events) :
    ∃ w, alLookup r.wd l.wdT = some w ∧ e.name = nameOf w r ∧ e.op = inotifyNewEventOp r.mask ∧ e.op ≠ 0#32 := by
  rw [stepRecord_events] at he
  rcases handle_events l env r with h | ⟨w, L, hw, h⟩ <;> rw [h] at he
  · cases he
  · exact ⟨w, hw, Lib.eventOf_some (Option.mem_toList.mp he)⟩

theorem Out.append_assoc (a b c : Out) : (a.append b).append c = a.append (b.append c) := by
  simp [Out.append, List.append_assoc, Bool.or_assoc]

theorem Out.append_events (a b : Out) : (a.append b).events = a.events ++ b.events := rfl
theorem Out.append_errors (a b : Out) : (a.append b).errors = a.errors ++ b.errors := rfl

theorem stepRecords_cons_events (l : Lib) (env : Env) (r : Raw) (rs : List Raw)
    (hp : (l.stepRecord env r).out.panic = false) :
    (l.stepRecords env (r :: rs)).2.2.1.events =
      (l.stepRecord env r).out.events ++
      ((l.stepRecord env r).lib.stepRecords (l.stepRecord env r).env rs).2.2.1.events := by
  simp [Lib.stepRecords, hp, Out.append]

def noPanic (l : Lib) (env : Env) (rs : List Raw) : Prop := (l.stepRecords env rs).2.2.1.panic = false

theorem stepRecords_append (l : Lib) (env : Env) (rs1 rs2 : List Raw) (hp : noPanic l env rs1) :
    let a := l.stepRecords env rs1
    let b := a.1.stepRecords a.2.1 rs2
    (l.stepRecords env (rs1 ++ rs2)).1 = b.1 ∧
    (l.stepRecords env (rs1 ++ rs2)).2.1 = b.2.1 ∧
    (l.stepRecords env (rs1 ++ rs2)).2.2.1 = a.2.2.1.append b.2.2.1 := by
  induction rs1 generalizing l env with
  | nil =>
    simp [Lib.stepRecords, Out.append]
  | cons r rs ih =>
    unfold noPanic at hp
    by_cases hpr : (l.stepRecord env r).out.panic = true
    · simp [Lib.stepRecords, hpr] at hp
    · have hpr' : (l.stepRecord env r).out.panic = false := by simpa using hpr
      have hrest : noPanic (l.stepRecord env r).lib (l.stepRecord env r).env rs := by
        unfold noPanic
        simp [Lib.stepRecords, hpr', Out.append] at hp
        exact hp
      have := ih (l.stepRecord env r).lib (l.stepRecord env r).env hrest
      simp only [List.cons_append, Lib.stepRecords, hpr', Bool.false_eq_true, if_false] at this ⊢
      obtain ⟨h1, h2, h3⟩ := this
      refine ⟨h1, h2, ?_⟩
      rw [h3, Out.append_assoc]

end Fsn
