import FsnVerif.Proofs.KqFullLemmas
/-!
# What every function of the backend keeps

The control flow above `addWatch` and `rm` (`Remove`, `Close`, the whole reader) is walked ONCE, for an
arbitrary predicate `I` on worlds: whatever `addWatch`, `rm`, `markSeen`, the two sends and the consumption of
the tape keep, every function keeps. The bookkeeping invariant, "delivers nothing", "adds no user path", "the
closed flag stays" are instances.
-/
namespace KqF
open Fsn

section generic
variable {I : W → Prop}

theorem keeps_rmChildren {fuel : Nat} (h : ∀ n u, Keeps I (rm fuel n u)) (name : Path) (unwatch isDir : Bool) :
    Keeps I (rmChildren fuel name unwatch isDir) := by
  unfold rmChildren
  refine .ite ?_ (.pure _)
  refine ((reads_watchesInDir _).keeps I).bind fun ps => Keeps.bind (Keeps.forUntil _ (fun p => ?_) ps) fun _ => .pure _
  exact (reads_get.keeps I).bind fun s => .ite (.pure _) ((h p true).bind fun _ => .pure _)

theorem keeps_rm (tape : ∀ w t b, I w → I { w with tape := t, bad := b })
    (step : ∀ name k, (∀ b, Keeps I (k b)) → Keeps I (rmStep name k)) : ∀ fuel name unwatch, Keeps I (rm fuel name unwatch)
  | 0, _, _ => ((asks_setBad _).keeps tape).bind fun _ => .pure _
  | fuel + 1, name, unwatch => by
    rw [rm_succ]
    exact step _ _ (keeps_rmChildren (keeps_rm tape step fuel) _ _)

/-- what the reader's side is made of -/
structure Stable (I : W → Prop) : Prop where
  tape : ∀ w t b, I w → I { w with tape := t, bad := b }
  sendEvent : ∀ e, Keeps I (sendEvent e)
  sendError : ∀ e, Keeps I (sendError e)
  markSeen : ∀ p b, Keeps I (markSeen p b)
  addWatch : ∀ n fl l, Keeps I (addWatch fuel n fl l)
  rm : ∀ n u, Keeps I (rm fuel n u)

theorem keeps_remove (hrm : ∀ n u, Keeps I (rm fuel n u)) (name : Path) (unwatch : Bool) : Keeps I (remove name unwatch) := by
  unfold remove
  exact (reads_get.keeps I).bind fun s => .ite (.pure _) (hrm _ _)

theorem keeps_close (hrm : ∀ n u, Keeps I (rm fuel n u)) (hcl : Keeps I (modify fun s => { s with closed := true })) :
    Keeps I close := by
  unfold close
  refine (reads_get.keeps I).bind fun s => .ite (.pure _) ?_
  exact hcl.bind fun _ => Keeps.bind (Keeps.forUntil _ (fun p => (hrm p false).bind fun _ => .pure _) _) fun _ => .pure _

theorem keeps_add (haw : ∀ n fl l, Keeps I (addWatch fuel n fl l)) (name : Path) (hu : Keeps I (addUserWatch (clean name))) :
    Keeps I (add name) := by
  unfold add
  refine (haw _ _ _).bind fun r => ?_
  cases r with
  | error e => exact .pure _
  | ok p => exact hu.bind fun _ => .pure _

theorem keeps_internalWatch {aw : AddWatch} (h : ∀ n fl l, Keeps I (aw n fl l)) (name : Path) (k : Kind) :
    Keeps I (internalWatch aw name k) := by
  unfold internalWatch
  exact .ite (((reads_byPath _).keeps I).bind fun _ => h _ _ _) (h _ _ _)

theorem keeps_watchDirectoryFiles (tape : ∀ w t b, I w → I { w with tape := t, bad := b }) (hseen : ∀ p, Keeps I (markSeen p true))
    {aw : AddWatch} (h : ∀ n fl l, Keeps I (aw n fl l)) (d : Path) : Keeps I (watchDirectoryFiles aw d) := by
  unfold watchDirectoryFiles
  refine ((asks_readDir _).keeps tape).bind fun r => ?_
  cases r with
  | error e => exact .pure _
  | ok files =>
    refine Keeps.forUntil _ (fun x => ?_) files
    dsimp only
    split
    · exact .pure _
    · refine (keeps_internalWatch h _ _).bind fun r => ?_
      split
      · exact (hseen _).bind fun _ => .pure _
      · exact .pure _
      · exact (hseen _).bind fun _ => .pure _

variable (S : Stable I)
include S

theorem keeps_announce (p : Path) : Keeps I (announce p) := by
  unfold announce
  exact ((reads_seenBefore _).keeps I).bind fun b => .ite (S.sendEvent _) (.pure _)

theorem keeps_sendCreateIfNew (p : Path) (k : Kind) : Keeps I (sendCreateIfNew p k) := by
  unfold sendCreateIfNew
  refine (keeps_announce S _).bind fun c => .ite (.pure _) ?_
  refine (keeps_internalWatch S.addWatch _ _).bind fun r => ?_
  cases r with
  | error e => exact .pure _
  | ok w => exact (S.markSeen _ _).bind fun _ => .pure _

theorem keeps_dirChange (d : Path) : Keeps I (dirChange d) := by
  unfold dirChange
  refine ((asks_readDir _).keeps S.tape).bind fun r => ?_
  split
  · exact .pure _
  · exact .pure _
  · refine Keeps.bind (Keeps.forUntil _ (fun x => ?_) _) fun _ => .pure _
    split
    · exact .pure _
    · exact .pure _
    · refine (keeps_sendCreateIfNew S _ _).bind fun r => ?_
      split <;> exact .pure _

theorem keeps_dropIfGone (e : Ev) : Keeps I (dropIfGone e) := by
  unfold dropIfGone
  exact .ite ((keeps_remove S.rm _ _).bind fun _ => S.markSeen _ _) (.pure _)

theorem keeps_deliver (p : KW) (e : Ev) : Keeps I (deliver p e) := by
  unfold deliver
  exact .ite ((keeps_dirChange S _).bind fun _ => .pure _) (S.sendEvent _)

theorem keeps_afterRemove (p : KW) (e : Ev) : Keeps I (afterRemove p e) := by
  unfold afterRemove
  refine .ite (.ite ?_ ?_) (.pure _)
  · refine ((reads_byPath _).keeps I).bind fun (_, found) => ?_
    exact .ite ((keeps_dirChange S _).bind fun _ => S.sendError _) (.pure _)
  · refine ((asks_lstat _).keeps S.tape).bind fun r => ?_
    cases r with
    | error e => exact .pure _
    | ok fi => exact (keeps_sendCreateIfNew S _ _).bind fun _ => S.sendError _

theorem keeps_handleKevent (fd : Nat) (m : BitVec 32) : Keeps I (handleKevent fd m) := by
  unfold handleKevent
  exact ((reads_byWd _).keeps I).bind fun x => (keeps_dropIfGone S _).bind fun _ => (keeps_deliver S _ _).bind fun c =>
    .ite (.pure _) (keeps_afterRemove S _ _)

theorem keeps_handleBatch : ∀ evs, Keeps I (handleBatch evs)
  | [] => .pure _
  | (fd, m) :: rest => by
    unfold handleBatch
    exact (keeps_handleKevent S fd m).bind fun b => .ite (keeps_handleBatch rest) (.pure _)

theorem keeps_reader : ∀ n, Keeps I (reader n)
  | 0 => .pure _
  | n + 1 => by
    intro w h
    unfold reader
    split
    · rename_i evs t _
      have h1 := keeps_handleBatch S evs _ (S.tape w t w.bad h)
      dsimp only
      split
      · exact keeps_reader n _ h1
      · exact h1
    · exact h

end generic
end KqF
