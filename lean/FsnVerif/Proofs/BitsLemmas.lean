import FsnVerif.Model.Bits
/-! Table-form flag translators, for all 32-bit inputs. `applyRules` and `applyReq` are one fold, `orRules`, at two
tests (`test m`, `opHas s`): the lemmas are about `orRules p` for any `p` and are put to use at the two tests. -/
namespace Fsn

/-! ### `test` (contains) and `opHas` (meets), bit by bit -/

theorem test_iff_bits {m f : BitVec 32} : test m f = true ↔ ∀ i, f.getLsbD i = true → m.getLsbD i = true := by
  simp only [test, beq_iff_eq, BitVec.eq_of_getLsbD_eq_iff, BitVec.getLsbD_and, Bool.and_eq_right_iff_imp]
  exact ⟨fun h i hi => h i (BitVec.lt_of_getLsbD hi) hi, fun h i _ => h i⟩

theorem opHas_iff_bits {o h : BitVec 32} : opHas o h = true ↔ ∃ i, o.getLsbD i = true ∧ h.getLsbD i = true := by
  simp only [opHas, bne_iff_ne, ne_eq, BitVec.zero_iff_eq_false, BitVec.getLsbD_and, Bool.and_eq_false_imp,
    Classical.not_forall, Bool.not_eq_false, exists_prop]

theorem test_trans {a b c : BitVec 32} (hab : test a b = true) (hbc : test b c = true) : test a c = true :=
  test_iff_bits.mpr fun i hi => test_iff_bits.mp hab i (test_iff_bits.mp hbc i hi)

/-- what contains `f` meets whatever meets `f` -/
theorem opHas_of_test {x f s : BitVec 32} (ht : test x f = true) (hs : opHas s f = true) : opHas x s = true :=
  let ⟨i, hsi, hfi⟩ := opHas_iff_bits.mp hs
  opHas_iff_bits.mpr ⟨i, test_iff_bits.mp ht i hfi, hsi⟩

/-- a union meets what one of its parts meets, at any width (`toWindowsFlags` is 64 bits wide) -/
theorem and_or_ne_zero {w : Nat} (a b h : BitVec w) :
    ((a ||| b) &&& h != 0#w) = ((a &&& h != 0#w) || (b &&& h != 0#w)) := by
  rw [BitVec.and_or_distrib_right, Bool.eq_iff_iff]
  simp only [bne_iff_ne, ne_eq, Bool.or_eq_true, BitVec.or_eq_zero_iff]
  by_cases h1 : a &&& h = 0#w <;> by_cases h2 : b &&& h = 0#w <;> simp [h1, h2]

/-- and `if · then c else 0` turns that OR into a union -/
theorem ite_or_zero {w : Nat} (x y : Bool) (c : BitVec w) :
    (if (x || y) = true then c else 0#w) = (if x = true then c else 0#w) ||| (if y = true then c else 0#w) := by
  cases x <;> cases y <;> simp

theorem opHas_or_left (a b h : BitVec 32) : opHas (a ||| b) h = (opHas a h || opHas b h) := and_or_ne_zero a b h

theorem opHas_comm (a b : BitVec 32) : opHas a b = opHas b a := by
  unfold opHas; rw [BitVec.and_comm]

theorem opHas_or_right (o a b : BitVec 32) : opHas o (a ||| b) = (opHas o a || opHas o b) := by
  rw [opHas_comm, opHas_or_left, opHas_comm a, opHas_comm b]

theorem opHas_zero (h : BitVec 32) : opHas 0#32 h = false := by simp [opHas]

theorem opHas_mask (S D o : BitVec 32) (h : test D o = true) : opHas (S &&& D) o = opHas S o := by
  unfold opHas
  rw [BitVec.and_assoc, eq_of_beq h]

/-! ### single bits: containing one is meeting it is reading it -/

theorem test_twoPow (m : BitVec 32) {k : Nat} (h : k < 32) : test m (BitVec.twoPow 32 k) = m.getLsbD k := by
  rw [Bool.eq_iff_iff, test_iff_bits]
  simp [BitVec.getLsbD_twoPow, h]

theorem opHas_twoPow (o : BitVec 32) {k : Nat} (h : k < 32) : opHas o (BitVec.twoPow 32 k) = o.getLsbD k := by
  rw [Bool.eq_iff_iff, opHas_iff_bits]
  simp [BitVec.getLsbD_twoPow, h]

def isSingleBit (f : BitVec 32) : Bool := (List.range 32).any (fun k => f == BitVec.twoPow 32 k)

theorem isSingleBit_spec {f : BitVec 32} (h : isSingleBit f = true) : ∃ k, k < 32 ∧ f = BitVec.twoPow 32 k := by
  unfold isSingleBit at h
  rw [List.any_eq_true] at h
  obtain ⟨k, hk, he⟩ := h
  exact ⟨k, List.mem_range.mp hk, by simpa using he⟩

theorem opHas_single {f : BitVec 32} (hf : isSingleBit f = true) (o : BitVec 32) : opHas o f = test o f := by
  obtain ⟨k, hk, rfl⟩ := isSingleBit_spec hf
  rw [test_twoPow _ hk, opHas_twoPow _ hk]

theorem test_or_single {f : BitVec 32} (hf : isSingleBit f = true) (a b : BitVec 32) :
    test (a ||| b) f = (test a f || test b f) := by
  simp only [← opHas_single hf, opHas_or_left]

def orRules (p : BitVec 32 → Bool) (rs : List Rule) : BitVec 32 :=
  rs.foldl (fun acc r => acc ||| (if r.flags.any p then r.op else 0#32)) 0#32

theorem applyRules_eq (rs : List Rule) (m : BitVec 32) : applyRules rs m = orRules (test m) rs := rfl
theorem applyReq_eq (rs : List Rule) (s : BitVec 32) : applyReq rs s = orRules (opHas s) rs := rfl

theorem foldl_or_acc (g : Rule → BitVec 32) (rs : List Rule) (acc : BitVec 32) :
    rs.foldl (fun acc r => acc ||| g r) acc = acc ||| rs.foldl (fun acc r => acc ||| g r) 0#32 := by
  simpa only [BitVec.or_zero, List.foldl_map] using
    List.foldl_assoc (op := fun a b : BitVec 32 => a ||| b) (l := rs.map g) (a₁ := acc) (a₂ := 0#32)

theorem orRules_cons (p : BitVec 32 → Bool) (r : Rule) (rs : List Rule) :
    orRules p (r :: rs) = (if r.flags.any p then r.op else 0#32) ||| orRules p rs := by
  rw [orRules, List.foldl_cons, foldl_or_acc, BitVec.zero_or]
  rfl

/-- whatever is read off a result additively (one of its bits; whether it meets `o`) is read off the rules that fire -/
theorem orRules_any {φ : BitVec 32 → Bool} (h0 : φ 0#32 = false) (hor : ∀ a b, φ (a ||| b) = (φ a || φ b))
    (p : BitVec 32 → Bool) (rs : List Rule) : φ (orRules p rs) = rs.any (fun r => r.flags.any p && φ r.op) := by
  induction rs with
  | nil => exact h0
  | cons r rs ih =>
    rw [orRules_cons, hor, ih, List.any_cons]
    cases r.flags.any p <;> simp [h0]

theorem getLsbD_orRules (p : BitVec 32 → Bool) (rs : List Rule) (i : Nat) :
    (orRules p rs).getLsbD i = rs.any (fun r => r.flags.any p && r.op.getLsbD i) :=
  orRules_any (φ := (·.getLsbD i)) BitVec.getLsbD_zero (fun _ _ => BitVec.getLsbD_or) p rs

theorem any_or {α : Type} {l : List α} {p q q' : α → Bool} (h : ∀ a ∈ l, p a = (q a || q' a)) :
    l.any p = (l.any q || l.any q') := by
  induction l with
  | nil => rfl
  | cons a l ih =>
    rw [List.any_cons, List.any_cons, List.any_cons, h a (List.mem_cons_self ..), ih fun b hb => h b (List.mem_cons_of_mem _ hb)]
    ac_rfl

/-- **Union law**: where the test of a union is the OR of the tests (on the flags of the table), the result for
the union is the union of the results -/
theorem orRules_or {rs : List Rule} {p q q' : BitVec 32 → Bool} (h : ∀ r ∈ rs, ∀ f ∈ r.flags, p f = (q f || q' f)) :
    orRules p rs = orRules q rs ||| orRules q' rs := by
  apply BitVec.eq_of_getLsbD_eq
  intro i _
  rw [BitVec.getLsbD_or, getLsbD_orRules, getLsbD_orRules, getLsbD_orRules]
  exact any_or fun r hr => by rw [any_or (h r hr), Bool.and_or_distrib_right]

/-- tests that agree within `M`, which holds every flag of the table, give the same result -/
theorem orRules_congr {rs : List Rule} {M : BitVec 32} (hM : rs.all (fun r => r.flags.all (test M)) = true)
    {p q : BitVec 32 → Bool} (h : ∀ f, test M f = true → p f = q f) : orRules p rs = orRules q rs := by
  simp only [List.all_eq_true] at hM
  simpa using orRules_or (p := p) (q := q) (q' := q) fun r hr f hf => by rw [h f (hM r hr f hf), Bool.or_self]

def rulesSingleBit (rs : List Rule) : Bool := rs.all (fun r => r.flags.all isSingleBit)

theorem applyRules_nil (m : BitVec 32) : applyRules [] m = 0#32 := rfl
theorem applyReq_nil (s : BitVec 32) : applyReq [] s = 0#32 := rfl

/-- **Union law** for table-form translators: a combination of native flags yields exactly the
union of what its parts yield — for all 32-bit `a`, `b`. -/
theorem applyRules_or {rs : List Rule} (h : rulesSingleBit rs = true) (a b : BitVec 32) :
    applyRules rs (a ||| b) = applyRules rs a ||| applyRules rs b := by
  simp only [rulesSingleBit, List.all_eq_true] at h
  exact orRules_or fun r hr f hf => test_or_single (h r hr f hf) a b

/-- request tables: no single-bit requirement, `opHas` distributes over `|||` -/
theorem applyReq_or (rs : List Rule) (a b : BitVec 32) :
    applyReq rs (a ||| b) = applyReq rs a ||| applyReq rs b :=
  orRules_or fun _ _ f _ => opHas_or_left a b f

theorem applyReq_mask (rs : List Rule) (D S : BitVec 32) (h : rs.all (fun r => r.flags.all (test D)) = true) :
    applyReq rs (S &&& D) = applyReq rs S :=
  orRules_congr h fun f => opHas_mask S D f

theorem applyRules_has (rs : List Rule) (m o : BitVec 32) :
    opHas (applyRules rs m) o = rs.any (fun r => r.flags.any (test m) && opHas r.op o) :=
  orRules_any (φ := (opHas · o)) (opHas_zero o) (fun a b => opHas_or_left a b o) _ rs

/-- bits outside `M`, which holds every flag of the table, change nothing (no single-bit requirement) -/
theorem applyRules_or_outside {rs : List Rule} {M h : BitVec 32} (hM : rs.all (fun r => r.flags.all (test M)) = true)
    (hh : h &&& M = 0#32) (m : BitVec 32) : applyRules rs (m ||| h) = applyRules rs m :=
  orRules_congr hM fun f hf => by
    rw [test, BitVec.and_or_distrib_right, ← eq_of_beq hf, ← BitVec.and_assoc h, hh, BitVec.zero_and, BitVec.or_zero]
    rfl

theorem applyRules_mono (rs : List Rule) {a b : BitVec 32} (h : test b a = true) :
    test (applyRules rs b) (applyRules rs a) = true := by
  rw [test_iff_bits]
  intro i hi
  simp only [applyRules_eq, getLsbD_orRules, List.any_eq_true, Bool.and_eq_true] at hi ⊢
  obtain ⟨r, hr, ⟨g, hg, ht⟩, hop⟩ := hi
  exact ⟨r, hr, ⟨g, hg, test_trans h ht⟩, hop⟩

/-! ### a request table against the translator that reads the events back -/

/-- a subscribed bit comes from a row one of whose operations is requested -/
theorem getLsbD_applyReq {rq : List Rule} {s : BitVec 32} {k : Nat} : (applyReq rq s).getLsbD k = true ↔
    ∃ r ∈ rq, (∃ f ∈ r.flags, opHas s f = true) ∧ r.op.getLsbD k = true := by
  simp [applyReq_eq, getLsbD_orRules]

/-- **Nothing requested goes unobserved.** If the translator `rs` reports back every operation `f` of a row from
what that row subscribes (`hrow`, a fact about the rows of the two tables), it reports every requested operation
that has a row (`hD`) from the whole subscription, whatever else (`x`) is subscribed with it: the row fires, and
`applyRules` is monotone. -/
theorem applyReq_observable {rq rs : List Rule} {D : BitVec 32}
    (hrow : rq.all (fun r => r.flags.all fun f => test (applyRules rs r.op) f) = true)
    (hD : ∀ i < 32, D.getLsbD i = true → rq.any (fun r => r.flags.any (·.getLsbD i)) = true) (x s : BitVec 32) :
    (s &&& D) &&& ~~~applyRules rs (x ||| applyReq rq s) = 0#32 := by
  apply BitVec.eq_of_getLsbD_eq
  intro i hi
  rw [BitVec.getLsbD_zero, BitVec.getLsbD_and, BitVec.getLsbD_and, BitVec.getLsbD_not]
  cases hs : s.getLsbD i
  · rfl
  cases hd : D.getLsbD i
  · rfl
  obtain ⟨r, hr, f, hf, hfi⟩ := by simpa only [List.any_eq_true] using hD i hi hd
  simp only [List.all_eq_true] at hrow
  have hfire : test (x ||| applyReq rq s) r.op = true := test_iff_bits.mpr fun j hj => by
    rw [BitVec.getLsbD_or, getLsbD_applyReq.mpr ⟨r, hr, ⟨f, hf, opHas_iff_bits.mpr ⟨i, hs, hfi⟩⟩, hj⟩, Bool.or_true]
  rw [test_iff_bits.mp (test_trans (applyRules_mono rs hfire) (hrow r hr f hf)) i hfi]
  simp

/-- only the `Write` bit can go, and it goes when the `Remove` bit is there -/
theorem getLsbD_dropWriteIfRemove (o : BitVec 32) (i : Nat) :
    (dropWriteIfRemove o).getLsbD i = (o.getLsbD i && !(decide (i = 1) && o.getLsbD 2)) := by
  have hw : Write = BitVec.twoPow 32 1 := rfl
  have hr : Remove = BitVec.twoPow 32 2 := rfl
  unfold dropWriteIfRemove
  rw [hw, hr, opHas_twoPow _ (by decide), opHas_twoPow _ (by decide), BitVec.getLsbD_and, BitVec.getLsbD_not]
  by_cases h32 : i < 32
  · by_cases hi : i = 1
    · subst hi
      cases h1 : o.getLsbD 1 <;> cases h2 : o.getLsbD 2 <;> simp
    · cases h1 : o.getLsbD 1 <;> cases h2 : o.getLsbD 2 <;> simp [hi, h32]
  · simp [BitVec.getLsbD_of_ge _ _ (Nat.le_of_not_lt h32)]

theorem dropWriteIfRemove_or (a b : BitVec 32) :
    dropWriteIfRemove (a ||| b) = dropWriteIfRemove (dropWriteIfRemove a ||| dropWriteIfRemove b) := by
  apply BitVec.eq_of_getLsbD_eq
  intro i _
  simp only [getLsbD_dropWriteIfRemove, BitVec.getLsbD_or]
  cases a.getLsbD i <;> cases b.getLsbD i <;> cases a.getLsbD 2 <;> cases b.getLsbD 2 <;> cases decide (i = 1) <;> rfl

end Fsn
