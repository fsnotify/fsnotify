import FsnVerif.Proofs.KernelLemmas
/-!
# The joint invariant of library and kernel (`Model/Kernel`)

Every kernel mark is known to the library; every descriptor the library knows is backed by a mark
or by a queued record that says the mark is gone; such a record never names a live mark;
descriptors are handed out in ascending order. This part of the invariant (`Track`) speaks of the keys of the
`wd` table, the marks and the queue as sets only, and is kept by any step of the shape `Track.step`.
-/
namespace Kern
open Fsn

/-- the descriptors in the table (`K`), the live marks `M`, the queue `Q` and the next descriptor `n` -/
structure Track (K : Nat → Prop) (M : List Nat) (Q : List Raw) (n : Nat) : Prop where
  mark_known : ∀ x, x ∈ M → K x
  known_backed : ∀ x, K x → x ∈ M ∨ ∃ r, r ∈ Q ∧ r.wd = x ∧ gone r.mask = true
  gone_dead : ∀ r, r ∈ Q → gone r.mask = true → r.wd ∉ M
  marks_below : ∀ x, x ∈ M → x < n
  queue_below : ∀ r, r ∈ Q → r.wd < n

/-- **One step of the joint system, seen from the descriptors**: the records `pre` are read, `new` is queued, `A` is what
the kernel hands out. The five steps of `Kern.step` differ only in what they put for these. -/
theorem Track.step {K K' : Nat → Prop} {M M' : List Nat} {pre Q new : List Raw} {n n' : Nat}
    (t : Track K M (pre ++ Q) n) (A : Nat → Prop)
    (hK : ∀ x, K' x → K x ∨ A x) (hM : ∀ x, x ∈ M' → x ∈ M ∨ A x) (hkeep : ∀ x, x ∈ M' → K x → K' x)
    (hA : ∀ x, A x → K' x ∧ x ∈ M' ∧ x < n' ∧ ∀ r, r ∈ Q → gone r.mask = true → r.wd ≠ x)
    (hpre : ∀ r, r ∈ pre → gone r.mask = true → ¬K' r.wd)
    (hnew : ∀ r, r ∈ new → r.wd ∈ M ∧ (gone r.mask = true → r.wd ∉ M'))
    (hlost : ∀ x, x ∈ M → x ∉ M' → ∃ r, r ∈ new ∧ r.wd = x ∧ gone r.mask = true) (hn : n ≤ n') :
    Track K' M' (Q ++ new) n' where
  mark_known x hx := (hM x hx).elim (fun h => hkeep x hx (t.mark_known x h)) (fun h => (hA x h).1)
  known_backed x hx := by
    rcases hK x hx with h | h
    · rcases t.known_backed x h with hm | ⟨r, hr, hrw, hg⟩
      · by_cases hm' : x ∈ M'
        · exact Or.inl hm'
        · obtain ⟨r, hr, h⟩ := hlost x hm hm'
          exact Or.inr ⟨r, List.mem_append_right _ hr, h⟩
      · rcases List.mem_append.mp hr with hr | hr
        · exact absurd (hrw ▸ hx) (hpre r hr hg)
        · exact Or.inr ⟨r, List.mem_append_left _ hr, hrw, hg⟩
    · exact Or.inl (hA x h).2.1
  gone_dead r hr hg hm := by
    rcases List.mem_append.mp hr with hr | hr
    · rcases hM _ hm with h | h
      · exact t.gone_dead r (List.mem_append_right _ hr) hg h
      · exact (hA _ h).2.2.2 r hr hg rfl
    · exact (hnew r hr).2 hg hm
  marks_below x hx := (hM x hx).elim (fun h => Nat.lt_of_lt_of_le (t.marks_below x h) hn) (fun h => (hA x h).2.2.1)
  queue_below r hr := by
    rcases List.mem_append.mp hr with hr | hr
    · exact Nat.lt_of_lt_of_le (t.queue_below r (List.mem_append_right _ hr)) hn
    · exact Nat.lt_of_lt_of_le (t.marks_below _ (hnew r hr).1) hn

theorem gone_ignored (wd : Nat) : gone (ignoredRec wd).mask = true := by
  show gone IN_IGNORED = true
  decide

theorem mem_released {before after : List Nat} {r : Raw} (h : r ∈ released before after) :
    r.wd ∈ before ∧ r.wd ∉ after := by
  unfold released at h
  simp only [List.mem_map, List.mem_filter] at h
  obtain ⟨wd, ⟨h1, h2⟩, rfl⟩ := h
  exact ⟨h1, show wd ∉ after by simpa using h2⟩

theorem released_of {before after : List Nat} {wd : Nat} (h1 : wd ∈ before) (h2 : wd ∉ after) :
    ∃ r, r ∈ released before after ∧ r.wd = wd ∧ gone r.mask = true := by
  refine ⟨ignoredRec wd, ?_, rfl, gone_ignored wd⟩
  unfold released
  simp only [List.mem_map, List.mem_filter]
  exact ⟨wd, ⟨h1, by simpa using h2⟩, rfl⟩

theorem released_self (m : List Nat) : released m m = [] := by unfold released; simp

structure Agree (j : J) : Prop extends Track (fun x => alHas x j.lib.wdT = true) j.marks j.queue j.next where
  inv : j.lib.Inv
  norec : j.lib.NoRec
  clean : j.lib.PathsClean
  nodup : j.marks.Nodup
  next_pos : 0 < j.next

theorem agree_init : Agree {} where
  inv := Lib.inv_empty
  norec := Lib.norec_empty
  clean := Lib.pathsClean_empty
  nodup := List.nodup_nil
  mark_known := by intro x h; cases h
  known_backed := by intro x h; simp [alHas, alLookup] at h
  gone_dead := by intro r h; cases h
  marks_below := by intro x h; cases h
  queue_below := by intro r h; cases h
  next_pos := by decide

theorem agree_add_ok (j : J) (a : Agree j) (arg : Path) (ops : BitVec 32) (nf : Bool) (ans : AddAns) (wd next' : Nat)
    (hans : ∀ p f, (envOf j ans).addWatch p f = .ok wd) (hwd0 : wd ≠ 0)
    (hq : ∀ r, r ∈ j.queue → gone r.mask = true → r.wd ≠ wd) (hlt : wd < next') (hle : j.next ≤ next') :
    Agree { lib := (j.lib.add (envOf j ans) arg ops nf).1, marks := (j.lib.add (envOf j ans) arg ops nf).2.1.marks,
            queue := j.queue ++ released j.marks (j.lib.add (envOf j ans) arg ops nf).2.1.marks, next := next' } := by
  have hk0 : (envOf j ans).K0 := by intro p f wd' h; rw [hans] at h; injection h with h; exact h ▸ hwd0
  obtain ⟨_, hkeys, hmarks, hnd⟩ := add_ok a.inv (envOf j ans) a.nodup arg ops nf wd hans hwd0
  exact {
    inv := (a.inv.add a.norec _ hk0 arg ops nf).1
    norec := (a.inv.add a.norec _ hk0 arg ops nf).2
    clean := a.clean.add _ arg ops nf
    nodup := hnd
    next_pos := Nat.lt_of_lt_of_le a.next_pos hle
    toTrack := a.toTrack.step (pre := []) (A := (· = wd)) (hn := hle) (hpre := nofun)
      (hK := fun x hx => ((hkeys x).mp hx).elim Or.inr (fun h => Or.inl h.1))
      (hM := fun x hx => ((hmarks x).mp hx).elim Or.inr (fun h => Or.inl h.1))
      (hkeep := fun x hx hk => (hkeys x).mpr (((hmarks x).mp hx).imp_right fun h => ⟨hk, h.2⟩))
      (hA := fun x hx => hx ▸ ⟨(hkeys wd).mpr (Or.inl rfl), (hmarks wd).mpr (Or.inl rfl), hlt, hq⟩)
      (hnew := fun _ hr => (mem_released hr).imp_right fun h _ => h) (hlost := fun _ => released_of) }

theorem agree_add (j : J) (a : Agree j) (arg : Path) (ops : BitVec 32) (nf : Bool) (ans : AddAns)
    (hadm : admissible j (.add arg ops nf ans)) : Agree (step j (.add arg ops nf ans)) := by
  cases ans with
  | err e =>
    obtain ⟨e1, e2⟩ := add_err j.lib (envOf j (.err e)) arg ops nf e (fun _ _ => rfl)
    have e2' : (j.lib.add (envOf j (AddAns.err e)) arg ops nf).2.1.marks = j.marks := by rw [e2]; rfl
    have : step j (.add arg ops nf (.err e)) = j := by
      simp only [step, e1, e2', released_self, List.append_nil, reduceCtorEq, decide_false, Bool.false_and, Bool.false_eq_true, if_false]
    rw [this]
    exact a
  | existing wd =>
    have hwd : wd ∈ j.marks := hadm
    obtain ⟨w, hw⟩ := (alHas_iff _ _).mp (a.mark_known _ hwd)
    simp only [step, reduceCtorEq, decide_false, Bool.false_and, Bool.false_eq_true, if_false]
    exact agree_add_ok j a arg ops nf (.existing wd) wd j.next (fun _ _ => rfl) (a.inv.ne_zero hw)
      (fun r hr hg e => a.gone_dead r hr hg (e ▸ hwd)) (a.marks_below _ hwd) (Nat.le_refl _)
  | fresh =>
    have h0 : j.next ≠ 0 := Nat.pos_iff_ne_zero.mp a.next_pos
    have hret := (add_ok a.inv (envOf j .fresh) a.nodup arg ops nf j.next (fun _ _ => rfl) h0).1
    simp only [step, decide_true, Bool.true_and, hret, Option.isNone_none, if_true]
    exact agree_add_ok j a arg ops nf .fresh j.next (j.next + 1) (fun _ _ => rfl) h0
      (fun r hr _ e => Nat.lt_irrefl _ (e ▸ a.queue_below r hr)) (Nat.lt_succ_self _) (Nat.le_succ _)

theorem agree_remove (j : J) (a : Agree j) (arg : Path) : Agree (step j (.remove arg)) := by
  obtain ⟨hkeys, hmarks, hnd⟩ := remove_effect a.inv a.norec (envOf j (.err "")) a.nodup (clean arg)
  exact {
    inv := (a.inv.remove a.norec _ _).1
    norec := (a.inv.remove a.norec _ _).2.1
    clean := a.clean.remove a.inv a.norec _ _
    nodup := hnd
    next_pos := a.next_pos
    toTrack := a.toTrack.step (pre := []) (A := fun _ => False) (hA := nofun) (hn := Nat.le_refl _) (hpre := nofun)
      (hK := fun x hx => Or.inl ((hkeys x).mp hx).1) (hM := fun x hx => Or.inl ((hmarks x).mp hx).1)
      (hkeep := fun x hx hk => (hkeys x).mpr ⟨hk, ((hmarks x).mp hx).2⟩)
      (hnew := fun _ hr => (mem_released hr).imp_right fun h _ => h) (hlost := fun _ => released_of) }

theorem agree_note (j : J) (a : Agree j) (r : Raw) (hadm : admissible j (.note r)) : Agree (step j (.note r)) :=
  { a with
    toTrack := a.toTrack.step (pre := []) (A := fun _ => False) (hA := nofun) (hn := Nat.le_refl _) (hpre := nofun)
      (hK := fun _ => Or.inl) (hM := fun _ => Or.inl) (hkeep := fun _ _ => id) (hlost := fun _ h h' => absurd h h')
      (hnew := fun r' hr => by
        cases List.mem_singleton.mp hr
        exact ⟨hadm.1, fun hg => by rw [hadm.2] at hg; cases hg⟩) }

theorem agree_kill (j : J) (a : Agree j) (wd : Nat) (um : Bool) (hadm : admissible j (.kill wd um)) : Agree (step j (.kill wd um)) := by
  have hwd : wd ∈ j.marks := hadm
  have hmem : ∀ x, x ∈ j.marks.erase wd ↔ x ≠ wd ∧ x ∈ j.marks := fun x => a.nodup.mem_erase_iff
  exact { a with
    nodup := a.nodup.erase _
    toTrack := a.toTrack.step (pre := []) (A := fun _ => False) (hA := nofun) (hn := Nat.le_refl _) (hpre := nofun)
      (hK := fun _ => Or.inl) (hM := fun x hx => Or.inl ((hmem x).mp hx).2) (hkeep := fun _ _ => id)
      (hnew := fun r hr => by
        have : r.wd = wd := by
          simp only [List.mem_cons, List.not_mem_nil, or_false] at hr
          rcases hr with rfl | rfl <;> rfl
        rw [this]; exact ⟨hwd, fun _ h => ((hmem _).mp h).1 rfl⟩)
      (hlost := fun x hx hx' => ⟨ignoredRec wd, by simp,
        Decidable.byContradiction fun h => hx' ((hmem x).mpr ⟨fun e => h e.symm, hx⟩), gone_ignored wd⟩) }

theorem agree_read (j : J) (a : Agree j) : Agree (step j .read) := by
  unfold step
  cases hq : j.queue with
  | nil => simp only; exact a
  | cons r q =>
    simp only
    obtain ⟨hkeys, hmarks, hnd⟩ := read_effect a.inv a.norec a.clean (envOf j (.err "")) a.nodup r
    have t := a.toTrack
    rw [hq] at t
    exact {
      inv := (a.inv.stepRecord a.norec _ r).1
      norec := (a.inv.stepRecord a.norec _ r).2.1
      clean := by rw [stepRecord_eq]; exact a.clean.handle a.inv a.norec _ _
      nodup := hnd
      next_pos := a.next_pos
      toTrack := t.step (pre := [r]) (A := fun _ => False) (hA := nofun) (hn := Nat.le_refl _)
        (hK := fun x hx => Or.inl ((hkeys x).mp hx).1) (hM := fun x hx => Or.inl ((hmarks x).mp hx).1)
        (hkeep := fun x hx hk => by
          -- a key is dropped with its mark, unless the record says the mark is gone: then there was none
          refine (hkeys x).mpr ⟨hk, fun ⟨he, hxr⟩ => ?_⟩
          obtain ⟨hm, hn⟩ := (hmarks x).mp hx
          cases hg : gone r.mask with
          | true => exact t.gone_dead r (by simp) hg (hxr ▸ hm)
          | false => exact hn ⟨hxr ▸ hk, by simpa [hg] using he, hxr⟩)
        (hpre := fun r' hr hg hk => by
          cases List.mem_singleton.mp hr
          exact ((hkeys _).mp hk).2 ⟨by simp [hg], rfl⟩)
        (hnew := fun _ hr => (mem_released hr).imp_right fun h _ => h) (hlost := fun _ => released_of) }

theorem reach_agree {j : J} (h : Reach j) : Agree j := by
  induction h with
  | init => exact agree_init
  | step j op _ hadm ih =>
    cases op with
    | add arg ops nf ans => exact agree_add j ih arg ops nf ans hadm
    | remove arg => exact agree_remove j ih arg
    | note r => exact agree_note j ih r hadm
    | kill wd um => exact agree_kill j ih wd um hadm
    | read => exact agree_read j ih

end Kern
