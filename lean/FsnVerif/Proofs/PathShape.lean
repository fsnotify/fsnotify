import FsnVerif.Proofs.PathLemmas
/-!
# Shape of a cleaned path (all inputs)

`clean p` is never empty, and it is absolute exactly when `p` is: the stored watch path — the
prefix of every event name (C08) — keeps the caller's choice between a relative and an absolute
spelling. Each is a fact about `render` on the names of a settled stack (`clean_shape`).
-/
namespace Fsn

theorem render_ne_nil (r : Bool) (comps : List Path) : render r comps ≠ [] := by
  unfold render
  split
  · simp
  · split
    · simp
    · rename_i hb; simpa using hb

/-- **a cleaned path is never empty** -/
theorem clean_ne_nil (p : Path) : clean p ≠ [] := by
  rw [clean_eq]; exact render_ne_nil _ _

/-- **absolute stays absolute, relative stays relative** -/
theorem clean_head_slash (p : Path) : (clean p).head? = some slash ↔ p.head? = some slash := by
  obtain ⟨st, hs, h⟩ := clean_shape p
  rw [h, render_head hs.names]
  simp

theorem joinSlash_getLast_ne_slash (cs : List Path) (h : Names cs) :
    (joinSlash cs).getLast? ≠ some slash := by
  induction cs with
  | nil => simp [joinSlash]
  | cons c rest ih =>
    cases rest with
    | nil => exact fun hl => (h c (by simp)).2 (List.mem_of_getLast? hl)
    | cons d ds =>
      have hj := joinSlash_cons_ne_nil (h d (by simp)).1 ds
      have ih' := ih fun x hx => h x (List.mem_cons_of_mem _ hx)
      simp only [joinSlash, List.getLast?_append, List.getLast?_cons_of_ne_nil hj] at ih' ⊢
      cases hl : (joinSlash (d :: ds)).getLast? with
      | none => exact absurd (List.getLast?_eq_none_iff.mp hl) hj
      | some x => rw [hl] at ih'; simpa using ih'

theorem render_getLast {r : Bool} {comps : List Path} (h : Names comps) :
    render r comps = [slash] ∨ (render r comps).getLast? ≠ some slash := by
  cases comps with
  | nil => cases r <;> decide
  | cons c rest =>
    have hc := (h c (by simp)).1
    have hl := joinSlash_getLast_ne_slash (c :: rest) h
    right
    cases r with
    | true => simpa [render, List.getLast?_cons_of_ne_nil (joinSlash_cons_ne_nil hc rest)] using hl
    | false => rwa [render_false_cons hc]

/-- **a cleaned path ends in a separator only when it is the root** -/
theorem clean_no_trailing_slash (p : Path) : clean p = [slash] ∨ (clean p).getLast? ≠ some slash := by
  obtain ⟨st, hs, h⟩ := clean_shape p
  rw [h]
  exact render_getLast hs.names

end Fsn
