import FsnVerif.Proofs.KqFullKeeps
/-!
# Frame reasoning for the full kqueue model: what an operation can NOT do

A reflexive, transitive relation `R` between worlds that the state-changing primitives respect gives, for every
world `w0`, a predicate `R w0` that those primitives keep; `KqFullKeeps` then says that every function keeps it.
`FrameAdd` asks for what the adding side (`addWatch` and everything below it) does to the state; `Frame` also
for what removals do. Besides `refl`, `trans`, the consumption of the tape (`tape`) and a successful `unix.Open`
(`opened`) that is one field each. `FrameAdd.grow`: `R` tolerates ANY change of the tables that forgets nothing seen
and leaves `byUser` and `closed` as they are — all the adding side does (it fills `wd`, `path`, `byDir` and the knotes,
closes a descriptor it could not register, marks paths seen). `Frame.tables`: any change of the tables that leaves
`closed` as it is and `byUser` either as it is or with one path filtered out, as `watches.remove` does; `seen` is not
mentioned, since removals un-mark paths.
-/
namespace KqF
open Fsn

def Rel {α : Type} (R : W → W → Prop) (m : M α) : Prop := ∀ w : W, R w (m w).2

structure FrameAdd (R : W → W → Prop) : Prop where
  refl : ∀ w, R w w
  trans : ∀ a b c, R a b → R b c → R a c
  tape : ∀ (w : W) (t : List Ans) (b : Option String), R w { w with tape := t, bad := b }
  opened : ∀ (w : W) (t : List Ans) (fd : Nat), R w { w with tape := t, s := { w.s with openFds := fd :: w.s.openFds } }
  grow : ∀ (w : W) (s' : KS), (∀ p, p ∈ w.s.seen → p ∈ s'.seen) → s'.byUser = w.s.byUser → s'.closed = w.s.closed →
    R w { w with s := s' }

structure Frame (R : W → W → Prop) : Prop where
  refl : ∀ w, R w w
  trans : ∀ a b c, R a b → R b c → R a c
  tape : ∀ (w : W) (t : List Ans) (b : Option String), R w { w with tape := t, bad := b }
  opened : ∀ (w : W) (t : List Ans) (fd : Nat), R w { w with tape := t, s := { w.s with openFds := fd :: w.s.openFds } }
  tables : ∀ (w : W) (s' : KS), s'.byUser = w.s.byUser ∨ (∃ p, s'.byUser = w.s.byUser.filter (· != p)) → s'.closed = w.s.closed →
    R w { w with s := s' }

theorem Frame.toAdd {R : W → W → Prop} (F : Frame R) : FrameAdd R where
  refl := F.refl
  trans := F.trans
  tape := F.tape
  opened := F.opened
  grow := fun w s' _ hu hc => F.tables w s' (Or.inl hu) hc

theorem Rel.keeps {α : Type} {R : W → W → Prop} {m : M α} (h : Rel R m) (f : FrameAdd R) (w0 : W) : Keeps (R w0) m :=
  fun w hw => f.trans _ _ _ hw (h w)

theorem Rel.of_keeps {α : Type} {R : W → W → Prop} {m : M α} (f : FrameAdd R) (h : ∀ w0, Keeps (R w0) m) : Rel R m :=
  fun w => h w w (f.refl w)

section addside
variable {R : W → W → Prop} (f : FrameAdd R) (w0 : W)
include f

theorem FrameAdd.keeps_tape : ∀ w t b, R w0 w → R w0 { w with tape := t, bad := b } :=
  fun w t b h => f.trans _ _ _ h (f.tape w t b)

theorem keeps_modifyGrow (g : KS → KS) (hs : ∀ s p, p ∈ s.seen → p ∈ (g s).seen) (hu : ∀ s, (g s).byUser = s.byUser)
    (hc : ∀ s, (g s).closed = s.closed) : Keeps (R w0) (modify g) :=
  Rel.keeps (fun w => f.grow w (g w.s) (hs w.s) (hu w.s) (hc w.s)) f w0

theorem keeps_askOpen (p : Path) : Keeps (R w0) (askOpen p) := by
  intro w h
  rcases askOpen_cases p w with ⟨_, _, _, e⟩ | ⟨_, _, _, e⟩ <;> rw [e]
  · exact f.keeps_tape w0 _ _ _ h
  · exact f.trans _ _ _ h (f.opened _ _ _)

theorem keeps_closeFd (fd : Nat) : Keeps (R w0) (closeFd fd) := keeps_modifyGrow f w0 _ (fun _ _ h => h) (fun _ => rfl) (fun _ => rfl)
theorem keeps_addLink (p : Path) (fd : Nat) : Keeps (R w0) (addLink p fd) :=
  keeps_modifyGrow f w0 _ (fun _ _ h => mem_setInsert_iff.mpr (.inl h)) (fun _ => rfl) (fun _ => rfl)
theorem keeps_watchesAdd (p l : Path) (fd : Nat) (d : Bool) : Keeps (R w0) (watchesAdd p l fd d) :=
  keeps_modifyGrow f w0 _ (fun _ _ h => h) (fun _ => rfl) (fun _ => rfl)
theorem keeps_markSeenTrue (p : Path) : Keeps (R w0) (markSeen p true) :=
  keeps_modifyGrow f w0 _ (fun _ _ h => mem_setInsert_iff.mpr (.inl h)) (fun _ => rfl) (fun _ => rfl)

theorem keeps_registerAdd (fd : Nat) (fl : BitVec 32) : Keeps (R w0) (registerAdd fd fl) := by
  unfold registerAdd
  exact (reads_get.keeps _).bind fun s =>
    .ite (Keeps.bind (keeps_modifyGrow f w0 _ (fun _ _ h => h) (fun _ => rfl) (fun _ => rfl)) fun _ => .pure _) (.pure _)

theorem keeps_updateDirFlags (p : Path) (fl : BitVec 32) : Keeps (R w0) (updateDirFlags p fl) := by
  unfold updateDirFlags
  refine (reads_get.keeps _).bind fun s => ?_
  split
  · exact .pure _
  · exact Keeps.bind (keeps_modifyGrow f w0 _ (fun _ _ h => h) (fun _ => rfl) (fun _ => rfl)) fun _ => .pure _

theorem keeps_followLink (name : Path) (info0 : KW) : Keeps (R w0) (followLink name info0) := by
  unfold followLink
  refine ((asks_readlink _).keeps (f.keeps_tape w0)).bind fun r => ?_
  cases r with
  | error e => exact .pure _
  | ok link0 =>
    refine ((reads_byPath _).keeps _).bind fun (_, alreadyL) => .ite ((keeps_addLink f w0 _ _).bind fun _ => .pure _) ?_
    refine ((asks_lstat _).keeps (f.keeps_tape w0)).bind fun r => ?_
    cases r <;> exact .pure _

theorem keeps_openTail (name : Path) (info : KW) (fi : Kind) : Keeps (R w0) (openTail name info fi) := by
  unfold openTail
  refine (keeps_askOpen f w0 _).bind fun r => ?_
  cases r <;> exact .pure _

theorem keeps_openNew (name : Path) (info0 : KW) (listDir : Bool) : Keeps (R w0) (openNew name info0 listDir) := by
  rw [openNew_eq]
  refine ((asks_lstat _).keeps (f.keeps_tape w0)).bind fun r => ?_
  cases r with
  | error e => exact .pure _
  | ok fi =>
    refine .ite (.pure _) (.ite ((keeps_followLink f w0 name info0).bind fun r2 => ?_) (keeps_openTail f w0 _ _ _))
    cases r2 with
    | error r => exact .pure _
    | ok v => exact keeps_openTail f w0 _ _ _

theorem keeps_finishAdd {wdf : Path → M (Option Err)} (hwdf : ∀ d, Keeps (R w0) (wdf d)) (name : Path) (info : KW) (already : Bool)
    (flags : BitVec 32) : Keeps (R w0) (finishAdd wdf name info already flags) := by
  rw [finishAdd_eq]
  refine (keeps_registerAdd f w0 _ _).bind fun r => ?_
  cases r with
  | error e => exact (keeps_closeFd f w0 _).bind fun _ => .pure _
  | ok u =>
    refine Keeps.bind (.ite (keeps_watchesAdd f w0 _ _ _ _) (.pure _)) fun _ => ?_
    unfold dirTail
    refine .ite ((keeps_updateDirFlags f w0 _ _).bind fun b => ?_) (.pure _)
    refine .ite (.pure _) (.ite ((hwdf _).bind fun r => ?_) (.pure _))
    cases r <;> exact .pure _

theorem keeps_addWatch : ∀ fuel n fl l, Keeps (R w0) (addWatch fuel n fl l)
  | 0, _, _, _ => ((asks_setBad _).keeps (f.keeps_tape w0)).bind fun _ => .pure _
  | fuel + 1, n, fl, l => by
    unfold addWatch
    have hw := keeps_watchDirectoryFiles (f.keeps_tape w0) (keeps_markSeenTrue f w0) (keeps_addWatch fuel)
    refine (reads_get.keeps _).bind fun s0 => .ite (.pure _) ?_
    refine ((reads_byPath _).keeps _).bind fun (info0, already0) => .ite (keeps_finishAdd f w0 hw _ _ _ _) ?_
    refine (keeps_openNew f w0 _ _ _).bind fun pre => ?_
    cases pre with
    | error r => exact .pure _
    | ok v => exact keeps_finishAdd f w0 hw _ _ _ _

end addside

section rmside
variable {R : W → W → Prop} (F : Frame R) (w0 : W)
include F

theorem keeps_modify (g : KS → KS) (hu : ∀ s, (g s).byUser = s.byUser ∨ ∃ p, (g s).byUser = s.byUser.filter (· != p))
    (hc : ∀ s, (g s).closed = s.closed) : Keeps (R w0) (modify g) :=
  Rel.keeps (fun w => F.tables w (g w.s) (hu w.s) (hc w.s)) F.toAdd w0

theorem keeps_markSeen (p : Path) (b : Bool) : Keeps (R w0) (markSeen p b) := keeps_modify F w0 _ (fun _ => Or.inl rfl) (fun _ => rfl)

theorem keeps_watchesRemove (fd : Nat) (p : Path) : Keeps (R w0) (watchesRemove fd p) := by
  unfold watchesRemove
  exact (reads_get.keeps _).bind fun s => Keeps.bind (keeps_modify F w0 _ (fun _ => Or.inr ⟨p, rfl⟩) (fun _ => rfl)) fun _ => .pure _

theorem keeps_rmStep (name : Path) (k : Bool → M (Option Err)) (hk : ∀ b, Keeps (R w0) (k b)) : Keeps (R w0) (rmStep name k) := by
  have f := F.toAdd
  unfold rmStep
  refine ((reads_byPath _).keeps _).bind fun (info, ok) => .ite (.pure _) ?_
  refine Keeps.bind (m := registerDelete info.wd) ?_ fun r => ?_
  · unfold registerDelete
    exact (reads_get.keeps _).bind fun s =>
      .ite (Keeps.bind (keeps_modify F w0 _ (fun _ => Or.inl rfl) (fun _ => rfl)) fun _ => .pure _) (.pure _)
  · cases r with
    | error e =>
      unfold rmErr
      exact (reads_get.keeps _).bind fun s =>
        .ite (.pure _) ((keeps_closeFd f w0 _).bind fun _ => (keeps_watchesRemove F w0 _ _).bind fun _ => .pure _)
    | ok u => exact (keeps_closeFd f w0 _).bind fun _ => (keeps_watchesRemove F w0 _ _).bind hk

theorem Frame.keeps_rm : ∀ fuel name unwatch, Keeps (R w0) (rm fuel name unwatch) :=
  KqF.keeps_rm (F.toAdd.keeps_tape w0) (keeps_rmStep F w0)

/-- a relation that looks at the tables only tolerates deliveries: it is kept by the whole reader's side -/
theorem Frame.stable (hs : ∀ a b : W, b.s = a.s → R a b) : Stable (R w0) where
  tape := F.toAdd.keeps_tape w0
  sendEvent := fun e w h => F.trans _ _ _ h (hs _ _ (pure_sendEvent e w))
  sendError := fun e w h => F.trans _ _ _ h (hs _ _ (pure_sendError e w))
  markSeen := keeps_markSeen F w0
  addWatch := keeps_addWatch F.toAdd w0 fuel
  rm := F.keeps_rm w0 fuel

end rmside

def Silent (a b : W) : Prop := b.events = a.events ∧ b.errors = a.errors

theorem frame_silent : Frame Silent where
  refl := fun _ => ⟨rfl, rfl⟩
  trans := fun _ _ _ h1 h2 => ⟨h2.1.trans h1.1, h2.2.trans h1.2⟩
  tape := fun _ _ _ => ⟨rfl, rfl⟩
  opened := fun _ _ _ => ⟨rfl, rfl⟩
  tables := fun _ _ _ _ => ⟨rfl, rfl⟩

def NoNewUser (a b : W) : Prop := ∀ p, p ∈ b.s.byUser → p ∈ a.s.byUser

theorem frame_noNewUser : Frame NoNewUser where
  refl := fun _ _ h => h
  trans := fun _ _ _ h1 h2 p hp => h1 p (h2 p hp)
  tape := fun _ _ _ _ h => h
  opened := fun _ _ _ _ h => h
  tables := fun w s' hu _ p (hp : p ∈ s'.byUser) => by
    rcases hu with hu | ⟨q, hu⟩ <;> rw [hu] at hp
    · exact hp
    · exact (List.mem_filter.mp hp).1

def SameClosed (a b : W) : Prop := b.s.closed = a.s.closed

theorem frame_sameClosed : Frame SameClosed where
  refl := fun _ => rfl
  trans := fun _ _ _ h1 h2 => h2.trans h1
  tape := fun _ _ _ => rfl
  opened := fun _ _ _ => rfl
  tables := fun _ _ _ hc => hc

theorem noNewUser_stable (w0 : W) : Stable (NoNewUser w0) := frame_noNewUser.stable w0 fun _ _ e _ hp => e ▸ hp

/-- `Add` delivers nothing: nothing that exists when a watch is added is reported -/
theorem add_silent (name : Path) : Rel Silent (add name) :=
  Rel.of_keeps frame_silent.toAdd fun w0 => keeps_add (keeps_addWatch frame_silent.toAdd w0 fuel) name (fun _ h => h)

theorem add_user (name : Path) (w : W) : ∀ p, p ∈ (add name w).2.s.byUser → p ∈ w.s.byUser ∨ p = clean name := by
  refine keeps_add (I := fun w' => ∀ p, p ∈ w'.s.byUser → p ∈ w.s.byUser ∨ p = clean name) ?_ name ?_ w (fun _ => Or.inl)
  · exact fun n fl l w' hw' p hp => hw' p (keeps_addWatch frame_noNewUser.toAdd w' fuel n fl l w' (fun _ h => h) p hp)
  · exact fun w' hw' p hp => (mem_setInsert_iff.mp hp).elim (hw' p) .inr

end KqF
