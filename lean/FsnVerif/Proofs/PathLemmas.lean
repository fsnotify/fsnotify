import FsnVerif.Model.Path
/-!
`clean p` is `render r st.reverse` for a *settled* stack `st`: one of names, each of which is pushed
again when it is replayed on what lies under it. Hence cleaning what was rendered rebuilds the same
stack (`clean_idem`; the library relies on it: `removePath` re-cleans stored watch paths), and what
`Proofs/PathShape` says of a cleaned path is said of `render`.
-/
namespace Fsn

theorem splitSlash_cons (c : Nat) (cs : Path) :
    splitSlash (c :: cs) = if c == slash then [] :: splitSlash cs else
      match splitSlash cs with
      | [] => [[c]]
      | x :: xs => (c :: x) :: xs := rfl

theorem splitSlash_noslash (p : Path) : ∀ c ∈ splitSlash p, slash ∉ c := by
  induction p with
  | nil => simp [splitSlash]
  | cons a as ih =>
    rw [splitSlash_cons]
    split
    · simpa using ih
    · rename_i ha
      have ha : slash ≠ a := fun h => ha (by simp [h])
      split
      · simpa using ha
      · rename_i x xs hx
        rw [hx] at ih
        simp only [List.mem_cons, forall_eq_or_imp, not_or] at ih ⊢
        exact ⟨⟨ha, ih.1⟩, ih.2⟩

theorem splitSlash_append {c : Path} (hc : slash ∉ c) {q x : Path} {xs : List Path}
    (hq : splitSlash q = x :: xs) : splitSlash (c ++ q) = (c ++ x) :: xs := by
  induction c with
  | nil => exact hq
  | cons a as ih =>
    simp only [List.mem_cons, not_or] at hc
    rw [List.cons_append, splitSlash_cons, ih hc.2, if_neg (by simpa using Ne.symm hc.1)]
    rfl

theorem splitSlash_joinSlash (cs : List Path) (hne : cs ≠ []) (h : ∀ c ∈ cs, slash ∉ c) :
    splitSlash (joinSlash cs) = cs := by
  induction cs with
  | nil => exact absurd rfl hne
  | cons c rest ih =>
    have hc := h c (by simp)
    cases rest with
    | nil => simpa [joinSlash] using splitSlash_append hc (q := []) rfl
    | cons d ds =>
      have hq : splitSlash (slash :: joinSlash (d :: ds)) = [] :: d :: ds := by
        rw [splitSlash_cons, ih (by simp) (fun x hx => h x (List.mem_cons_of_mem _ hx))]; rfl
      simpa [joinSlash] using splitSlash_append hc hq

def Names (cs : List Path) : Prop := ∀ c ∈ cs, c ≠ [] ∧ slash ∉ c

/-- a stack (top first) of names, each pushed again when replayed on the stack under it -/
def Settled (r : Bool) : List Path → Prop
  | [] => True
  | c :: st => (c ≠ [] ∧ slash ∉ c ∧ cleanStep r st c = c :: st) ∧ Settled r st

theorem cleanStep_cases (r : Bool) (st : List Path) (c : Path) :
    cleanStep r st c = st ∨ cleanStep r st c = st.tail ∨ c ≠ [] ∧ cleanStep r st c = c :: st := by
  unfold cleanStep
  split
  · exact .inl rfl
  · rename_i h0
    have h0 : c ≠ [] := fun hc => h0 (by simp [hc])
    split
    · split
      · split
        · exact .inr (.inr ⟨h0, rfl⟩)
        · exact .inr (.inl rfl)
      · split
        · exact .inl rfl
        · exact .inr (.inr ⟨h0, rfl⟩)
    · exact .inr (.inr ⟨h0, rfl⟩)

theorem Settled.tail {r : Bool} {st : List Path} (h : Settled r st) : Settled r st.tail := by
  cases st with
  | nil => trivial
  | cons c st => exact h.2

theorem Settled.step {r : Bool} {st : List Path} (h : Settled r st) {c : Path} (hc : slash ∉ c) :
    Settled r (cleanStep r st c) := by
  rcases cleanStep_cases r st c with he | he | ⟨h0, he⟩ <;> rw [he]
  · exact h
  · exact h.tail
  · exact ⟨⟨h0, hc, he⟩, h⟩

theorem Settled.foldl {r : Bool} {cs st : List Path} (h : Settled r st) (hc : ∀ c ∈ cs, slash ∉ c) :
    Settled r (cs.foldl (cleanStep r) st) := by
  induction cs generalizing st with
  | nil => exact h
  | cons c cs ih => exact ih (h.step (hc c (by simp))) (fun x hx => hc x (List.mem_cons_of_mem _ hx))

theorem Settled.names {r : Bool} {st : List Path} (h : Settled r st) : Names st.reverse := by
  induction st with
  | nil => exact fun _ hc => nomatch hc
  | cons c st ih =>
    intro x hx
    rcases List.mem_cons.mp (List.mem_reverse.mp hx) with rfl | hx
    · exact ⟨h.1.1, h.1.2.1⟩
    · exact ih h.2 x (List.mem_reverse.mpr hx)

/-- replaying a settled stack, bottom first, rebuilds it -/
theorem Settled.replay {r : Bool} {st : List Path} (h : Settled r st) :
    st.reverse.foldl (cleanStep r) [] = st := by
  induction st with
  | nil => rfl
  | cons c st ih => rw [List.reverse_cons, List.foldl_append, ih h.2]; exact h.1.2.2

/-- the last step of `clean`: the components joined, after `/` or standing for `.` when there are none -/
def render (r : Bool) (comps : List Path) : Path :=
  if r then slash :: joinSlash comps else if joinSlash comps == [] then [dot] else joinSlash comps

theorem clean_eq (p : Path) :
    clean p = render (p.head? == some slash)
      ((splitSlash p).foldl (cleanStep (p.head? == some slash)) []).reverse := by
  cases p with
  | nil => rfl
  | cons a as => rfl

theorem clean_shape (p : Path) :
    ∃ st, Settled (p.head? == some slash) st ∧ clean p = render (p.head? == some slash) st.reverse :=
  ⟨_, Settled.foldl (st := []) trivial (splitSlash_noslash p), clean_eq p⟩

theorem joinSlash_cons_ne_nil {c : Path} (hc : c ≠ []) (rest : List Path) : joinSlash (c :: rest) ≠ [] := by
  cases rest <;> simp [joinSlash, hc]

theorem joinSlash_head? {c : Path} (hc : c ≠ []) (rest : List Path) : (joinSlash (c :: rest)).head? = c.head? := by
  cases c with
  | nil => exact absurd rfl hc
  | cons a as => cases rest <;> rfl

theorem render_false_cons {c : Path} (hc : c ≠ []) (rest : List Path) :
    render false (c :: rest) = joinSlash (c :: rest) := by
  simp [render, joinSlash_cons_ne_nil hc rest]

/-- names joined do not begin with a separator: a rendered path is absolute exactly when asked to be -/
theorem render_head {r : Bool} {comps : List Path} (h : Names comps) :
    (render r comps).head? = some slash ↔ r = true := by
  cases r with
  | true => simp [render]
  | false =>
    cases comps with
    | nil => decide
    | cons c rest =>
      have hc := h c (by simp)
      rw [render_false_cons hc.1, joinSlash_head? hc.1]
      exact iff_of_false (fun hh => hc.2 (List.mem_of_mem_head? hh)) Bool.false_ne_true

/-- the empty component before a leading `/`, or the `.` that stands for no component, is skipped -/
theorem foldl_splitSlash_render (r r' : Bool) {comps : List Path} (h : Names comps) :
    (splitSlash (render r comps)).foldl (cleanStep r') [] = comps.foldl (cleanStep r') [] := by
  cases comps with
  | nil => cases r <;> rfl
  | cons c rest =>
    have hs := splitSlash_joinSlash (c :: rest) (by simp) (fun x hx => (h x hx).2)
    cases r with
    | true => simp only [render, if_true, splitSlash_cons, hs]; rfl
    | false => rw [render_false_cons (h c (by simp)).1, hs]

theorem clean_render {r : Bool} {st : List Path} (h : Settled r st) :
    clean (render r st.reverse) = render r st.reverse := by
  have hr : ((render r st.reverse).head? == some slash) = r := by
    cases r <;> simp [render_head h.names]
  rw [clean_eq, hr, foldl_splitSlash_render r r h.names, h.replay]

/-- **`filepath.Clean` (as modelled) is idempotent** -/
theorem clean_idem (p : Path) : clean (clean p) = clean p := by
  obtain ⟨st, hs, h⟩ := clean_shape p
  rw [h]
  exact clean_render hs

end Fsn
