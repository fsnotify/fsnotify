import FsnVerif.Proofs.SkeletonTieDefs
/-! the per-function comparison (the expensive part of the skeleton tie), in a module of its own -/
namespace SkeletonTie
open Skel

/-- a skeleton that is the reviewed one verbatim has the reviewed views -/
theorem views_of_raw {sk : List FnSkel} (h : sk.map (fun f => (f.name, f.ops)) = Expected.functions)
    {fns : List String} (hk : fns.all (fun n => (expectedOf n).isSome) = true) :
    fns.all (fun n => viewOf n (lookupFn n sk) == viewOf n (expectedOf n) && (expectedOf n).isSome) = true := by
  have hl (n : String) : lookupFn n sk = expectedOf n := by
    simp only [lookupFn, expectedOf, ← h, List.find?_map, Function.comp_def]
    cases sk.find? _ <;> rfl
  simpa only [hl, beq_self_eq_true, Bool.true_and] using hk

/-- every protocol function has exactly the expected lock / send / close / syscall skeleton (the three
functions that run wholly under `mu` are compared through `Skel.quiet`) -/
theorem protocol_skeleton_ok : protocolFns.all (fun n => viewOf n (lookupFn n Gen.skeleton) == viewOf n (expectedOf n) && (expectedOf n).isSome) = true := by
  -- While the regenerated skeleton is the reviewed one verbatim there is nothing to evaluate but the lookups in the
  -- reviewed file: `rfl` compares the string literals as literals. Once a function has been rewritten the views are
  -- evaluated and compared by `==`, which is dear (`String.decEq` unfolds a literal to its bytes, quadratically: 8M
  -- heartbeats for the last `ret` of `AddWith`); the elaborator's `rfl` cannot do that part, it runs out of recursion
  -- depth on `AddWith`.
  first
  | exact views_of_raw (by rfl) (by decide +kernel)
  | decide +kernel

end SkeletonTie
