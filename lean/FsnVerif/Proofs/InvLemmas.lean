import FsnVerif.Proofs.ALLemmas
import FsnVerif.Proofs.InotifyLemmas
/-!
# The bookkeeping invariant (C04, C09, C12)

`Lib.Inv`: the two tables are inverse to each other (every listed path has its entry and every
entry is listed under its own path), keys are unique, and wd 0 (Go's zero value, never issued by
the kernel: K0) is not a key. What each operation of the library does on a state with the invariant is stated once (the
lookup equations `applyAdd_wdT`, `applyAdd_pathT`; `remove_listed`; `handle_eq`); that every operation preserves the
invariant, for every kernel answer, is read off those.
-/
namespace Fsn

structure Lib.Inv (l : Lib) : Prop where
  wd_nodup : KeysNodup l.wdT
  path_nodup : KeysNodup l.pathT
  fwd : ∀ p wd, alLookup p l.pathT = some wd → ∃ w, alLookup wd l.wdT = some w ∧ w.path = p ∧ w.wd = wd
  bwd : ∀ wd w, alLookup wd l.wdT = some w → w.wd = wd ∧ alLookup w.path l.pathT = some wd
  no_zero : alLookup 0 l.wdT = none

/-- the public API never creates recursive watches -/
structure Lib.NoRec (l : Lib) : Prop where
  off : l.enableRecurse = false
  entries : ∀ wd w, alLookup wd l.wdT = some w → w.recurse = false

/-- K0: the kernel never answers `inotify_add_watch` with wd 0 -/
def Env.K0 (env : Env) : Prop := ∀ p f wd, env.addWatch p f = .ok wd → wd ≠ 0

theorem Lib.inv_empty : ({} : Lib).Inv := by
  refine ⟨by simp [KeysNodup], by simp [KeysNodup], ?_, ?_, rfl⟩ <;> intro _ _ h <;> cases h

theorem Lib.norec_empty : ({} : Lib).NoRec := ⟨rfl, by intro wd w h; cases h⟩

theorem Lib.Inv.path_of {l : Lib} (h : l.Inv) {p : Path} {k : Nat} {w : Watch} (hp : alLookup p l.pathT = some k)
    (hw : alLookup k l.wdT = some w) : w.path = p := by
  obtain ⟨w', hw', hp', _⟩ := h.fwd p k hp
  rw [hw] at hw'; cases hw'; exact hp'

theorem Lib.Inv.ne_zero {l : Lib} (h : l.Inv) {wd : Nat} {w : Watch} (hw : alLookup wd l.wdT = some w) : wd ≠ 0 :=
  fun h0 => by rw [h0, h.no_zero] at hw; cases hw

/-- `l'` has no entry that `l` has not (and the same switch): what `Remove` and the reader do to the wd table.
Every property of all entries (`NoRec`, `PathsClean`) passes from `l` to `l'`. The preservation lemmas below come in pairs:
the primed one says that the state shrinks (so that `PathsClean` and the like follow too), the unprimed one is its
corollary that `NoRec` is kept. -/
def Lib.ShrinksTo (l l' : Lib) : Prop :=
  l'.enableRecurse = l.enableRecurse ∧ ∀ k w, alLookup k l'.wdT = some w → alLookup k l.wdT = some w

theorem Lib.ShrinksTo.refl (l : Lib) : l.ShrinksTo l := ⟨rfl, fun _ _ h => h⟩

theorem Lib.ShrinksTo.trans {a b c : Lib} (h1 : a.ShrinksTo b) (h2 : b.ShrinksTo c) : a.ShrinksTo c :=
  ⟨h2.1.trans h1.1, fun k w h => h1.2 k w (h2.2 k w h)⟩

theorem Lib.ShrinksTo.drop (l : Lib) (w : Watch) : l.ShrinksTo (l.dropWatch w) :=
  ⟨rfl, fun _ _ h => (alLookup_erase_eq_some.mp h).2⟩

theorem Lib.ShrinksTo.ring {l l' : Lib} (h : l.ShrinksTo l') (g : Ring) : l.ShrinksTo { l' with ring := g } := h

theorem Lib.ShrinksTo.all {l l' : Lib} (hs : l.ShrinksTo l') {P : Watch → Prop} (h : ∀ k w, alLookup k l.wdT = some w → P w) :
    ∀ k w, alLookup k l'.wdT = some w → P w := fun k w hk => h k w (hs.2 k w hk)

theorem Lib.NoRec.shrink {l l' : Lib} (h : l.NoRec) (hs : l.ShrinksTo l') : l'.NoRec := ⟨hs.1.trans h.off, hs.all h.entries⟩

theorem Lib.Inv.ring {l : Lib} (h : l.Inv) (g : Ring) : ({ l with ring := g } : Lib).Inv :=
  ⟨h.wd_nodup, h.path_nodup, h.fwd, h.bwd, h.no_zero⟩

theorem Lib.Inv.drop {l : Lib} (h : l.Inv) (w : Watch) (hw : alLookup w.wd l.wdT = some w) :
    (l.dropWatch w).Inv := by
  have hb := (h.bwd w.wd w hw).2
  refine ⟨h.wd_nodup.erase _, h.path_nodup.erase _, ?_, ?_, ?_⟩
  · intro p wd hp
    obtain ⟨hpp, hp⟩ := alLookup_erase_eq_some.mp hp
    obtain ⟨w', hw', hp', hwd'⟩ := h.fwd p wd hp
    refine ⟨w', alLookup_erase_eq_some.mpr ⟨?_, hw'⟩, hp', hwd'⟩
    exact fun he => hpp (h.path_of hp (he ▸ hw)).symm
  · intro wd w' hw'
    obtain ⟨hne, hw'⟩ := alLookup_erase_eq_some.mp hw'
    obtain ⟨h1, h2⟩ := h.bwd wd w' hw'
    refine ⟨h1, alLookup_erase_eq_some.mpr ⟨?_, h2⟩⟩
    intro he; rw [he, hb] at h2; injection h2 with h2; exact hne h2.symm
  · show alLookup 0 (alErase w.wd l.wdT) = none
    rw [alLookup_erase, h.no_zero]; split <;> rfl

theorem Lib.Inv.newEvent {l : Lib} (h : l.Inv) (n : Path) (m c : BitVec 32) : (l.newEvent n m c).1.Inv := by
  rw [newEvent_eq]; exact h.ring _

theorem Lib.NoRec.newEvent {l : Lib} (h : l.NoRec) (n : Path) (m c : BitVec 32) : (l.newEvent n m c).1.NoRec := by
  rw [newEvent_eq]; exact ⟨h.off, h.entries⟩

/-- the entry `applyAdd` stores: the one already listed under the answered descriptor, else the path's
entry moved to it, else a new one -/
def Lib.addEntry (l : Lib) (path : Path) (fl : BitVec 32) (rc : Bool) (wd : Nat) : Watch :=
  match alLookup wd l.wdT with
  | some e => e
  | none =>
    match (alLookup path l.pathT).bind (fun wd => alLookup wd l.wdT) with
    | none => { wd := wd, path := path, flags := fl, recurse := rc }
    | some e => { e with wd := wd, flags := fl }

theorem Lib.addEntry_listed {l : Lib} {wd : Nat} {e : Watch} (he : alLookup wd l.wdT = some e) (path : Path) (fl : BitVec 32)
    (rc : Bool) : l.addEntry path fl rc wd = e := by simp [Lib.addEntry, he]

theorem Lib.addEntry_new {l : Lib} {path : Path} {wd : Nat} (hw : alLookup wd l.wdT = none) (hp : alLookup path l.pathT = none)
    (fl : BitVec 32) (rc : Bool) : l.addEntry path fl rc wd = ⟨wd, fl, path, rc⟩ := by simp [Lib.addEntry, hw, hp]

theorem Lib.applyAdd_eq (l : Lib) (path : Path) (fl : BitVec 32) (rc : Bool) (wd : Nat) :
    l.applyAdd path fl rc wd =
      { l with
        wdT := if (l.addEntry path fl rc wd).wd != (alLookup path l.pathT).getD 0
          then alErase ((alLookup path l.pathT).getD 0) (alInsert (l.addEntry path fl rc wd).wd (l.addEntry path fl rc wd) l.wdT)
          else alInsert (l.addEntry path fl rc wd).wd (l.addEntry path fl rc wd) l.wdT
        pathT := if (l.addEntry path fl rc wd).wd != (alLookup path l.pathT).getD 0 && alHas path l.pathT &&
            (l.addEntry path fl rc wd).path != path
          then alErase path (alInsert (l.addEntry path fl rc wd).path (l.addEntry path fl rc wd).wd l.pathT)
          else alInsert (l.addEntry path fl rc wd).path (l.addEntry path fl rc wd).wd l.pathT } := rfl

theorem Lib.addEntry_ind {l : Lib} {path : Path} {fl : BitVec 32} {rc : Bool} {wd : Nat} {P : Watch → Prop}
    (hl : ∀ k w, alLookup k l.wdT = some w → P w) (hnew : P ⟨wd, fl, path, rc⟩)
    (hmove : ∀ e, P e → P { e with wd := wd, flags := fl }) : P (l.addEntry path fl rc wd) := by
  unfold Lib.addEntry
  split
  · exact hl _ _ ‹_›
  · split
    · exact hnew
    · rename_i e he
      cases hp : alLookup path l.pathT with
      | none => simp [hp] at he
      | some old => exact hmove e (hl old e (by simpa [hp] using he))

theorem Lib.applyAdd_entries {l : Lib} {path : Path} {fl : BitVec 32} {rc : Bool} {wd k : Nat} {w : Watch}
    (hk : alLookup k (l.applyAdd path fl rc wd).wdT = some w) :
    w = l.addEntry path fl rc wd ∨ alLookup k l.wdT = some w := by
  rw [Lib.applyAdd_eq] at hk
  have : alLookup k (alInsert (l.addEntry path fl rc wd).wd (l.addEntry path fl rc wd) l.wdT) = some w := by
    split at hk
    · exact (alLookup_erase_eq_some.mp hk).2
    · exact hk
  rcases alLookup_insert_eq_some.mp this with ⟨_, h⟩ | ⟨_, h⟩
  · exact Or.inl h.symm
  · exact Or.inr h

theorem Lib.applyAdd_all {l : Lib} {P : Watch → Prop} (h : ∀ k w, alLookup k l.wdT = some w → P w)
    (path : Path) (fl : BitVec 32) (rc : Bool) (wd : Nat)
    (hnew : P ⟨wd, fl, path, rc⟩) (hmove : ∀ e, P e → P { e with wd := wd, flags := fl }) :
    ∀ k w, alLookup k (l.applyAdd path fl rc wd).wdT = some w → P w := by
  intro k w hk
  rcases Lib.applyAdd_entries hk with rfl | hk
  · exact Lib.addEntry_ind h hnew hmove
  · exact h k w hk

theorem Lib.NoRec.applyAdd {l : Lib} (h : l.NoRec) (hi : l.Inv) (path : Path) (fl : BitVec 32) (wd : Nat) :
    (l.applyAdd path fl false wd).NoRec :=
  ⟨h.off, Lib.applyAdd_all (P := fun w => w.recurse = false) h.entries path fl false wd rfl (fun _ he => he)⟩

theorem Lib.Inv.addEntry {l : Lib} (h : l.Inv) (path : Path) (fl : BitVec 32) (rc : Bool) (wd : Nat) :
    (l.addEntry path fl rc wd).wd = wd ∧
    (alLookup wd l.wdT = some (l.addEntry path fl rc wd) ∨
      alLookup wd l.wdT = none ∧ (l.addEntry path fl rc wd).path = path) := by
  unfold Lib.addEntry
  cases he : alLookup wd l.wdT with
  | some e => exact ⟨(h.bwd wd e he).1, Or.inl rfl⟩
  | none =>
    refine ⟨?_, Or.inr ⟨rfl, ?_⟩⟩
    · simp only; split <;> rfl
    · cases hp : alLookup path l.pathT with
      | none => rfl
      | some old =>
        obtain ⟨w0, hw0, hw0p, _⟩ := h.fwd path old hp
        simp [hw0, hw0p]

theorem Lib.Inv.applyAdd_wdT {l : Lib} (h : l.Inv) (path : Path) (fl : BitVec 32) (rc : Bool) {wd : Nat} (hwd : wd ≠ 0)
    (k : Nat) :
    alLookup k (l.applyAdd path fl rc wd).wdT =
      if k = wd then some (l.addEntry path fl rc wd)
      else if alLookup path l.pathT = some k then none else alLookup k l.wdT := by
  have hu := (h.addEntry path fl rc wd).1
  rw [Lib.applyAdd_eq]
  generalize l.addEntry path fl rc wd = u at hu ⊢
  subst hu
  simp only [alLookup_ite_erase_insert, bne_iff_ne, ne_eq]
  cases hp : alLookup path l.pathT with
  | none =>
    -- Go's zero value: `delete(wd, 0)`; nothing is listed under 0
    by_cases hk : k = 0
    · subst hk; simp [h.no_zero, hwd, Ne.symm hwd]
    · simp [hk]
  | some old =>
    by_cases hk : k = old
    · subst hk
      by_cases hw : u.wd = k
      · simp [hw]
      · simp [hw, Ne.symm hw]
    · simp [hk, Ne.symm hk]

theorem Lib.Inv.applyAdd_pathT {l : Lib} (h : l.Inv) (path : Path) (fl : BitVec 32) (rc : Bool) (wd : Nat) (p : Path) :
    alLookup p (l.applyAdd path fl rc wd).pathT =
      if p = (l.addEntry path fl rc wd).path then some wd
      else if p = path then none else alLookup p l.pathT := by
  obtain ⟨hu, hcase⟩ := h.addEntry path fl rc wd
  rw [Lib.applyAdd_eq]
  generalize l.addEntry path fl rc wd = u at hu hcase ⊢
  subst hu
  simp only [alLookup_ite_erase_insert, Bool.and_eq_true, bne_iff_ne, ne_eq]
  by_cases hup : u.path = path
  · by_cases hpp : p = path <;> simp [hup, hpp]
  · -- the stored entry is listed under the answered descriptor, and under another path
    have hlisted : alLookup u.wd l.wdT = some u := hcase.resolve_right (fun hc => hup hc.2)
    by_cases hpp : p = path
    · subst hpp
      cases hp : alLookup p l.pathT with
      | none => simp [alHas, hp, Ne.symm hup]
      | some old =>
        have hwo : u.wd ≠ old := by intro ho; subst ho; exact hup (h.path_of hp hlisted)
        simp [alHas, hp, hwo, hup, Ne.symm hup]
    · simp [hpp]

/-- the two cases of `hp`: the same name is added again, or another name of a watched file -/
theorem Lib.Inv.applyAdd_listed {l : Lib} (h : l.Inv) (path : Path) (fl : BitVec 32) (rc : Bool) {wd : Nat} {e : Watch}
    (he : alLookup wd l.wdT = some e) (hp : alLookup path l.pathT = some wd ∨ alLookup path l.pathT = none) (k : Nat) (p : Path) :
    alLookup k (l.applyAdd path fl rc wd).wdT = alLookup k l.wdT ∧
    alLookup p (l.applyAdd path fl rc wd).pathT = alLookup p l.pathT := by
  rw [h.applyAdd_wdT path fl rc (h.ne_zero he), h.applyAdd_pathT, Lib.addEntry_listed he]
  constructor
  · by_cases hk : k = wd
    · simp [hk, he]
    · rcases hp with hp | hp <;> simp [hk, hp, Ne.symm hk]
  · by_cases hpe : p = e.path
    · simp [hpe, (h.bwd wd e he).2]
    · rw [if_neg hpe]
      split
      · rename_i hpp
        rcases hp with hp | hp
        · exact absurd (hpp.trans (h.path_of hp he).symm) hpe
        · rw [hpp, hp]
      · rfl

theorem Lib.Inv.applyAdd {l : Lib} (h : l.Inv) (path : Path) (fl : BitVec 32) (rc : Bool) (wd : Nat) (hwd : wd ≠ 0) :
    (l.applyAdd path fl rc wd).Inv := by
  obtain ⟨hu, hcase⟩ := h.addEntry path fl rc wd
  have hW := h.applyAdd_wdT path fl rc hwd
  have hP := h.applyAdd_pathT path fl rc wd
  refine ⟨?_, ?_, ?_, ?_, ?_⟩
  · rw [Lib.applyAdd_eq]; exact h.wd_nodup.ite_erase_insert _ _ _ _
  · rw [Lib.applyAdd_eq]; exact h.path_nodup.ite_erase_insert _ _ _ _
  · intro p wd2 hp2
    rw [hP] at hp2; rw [hW]
    generalize l.addEntry path fl rc wd = u at hu hcase hp2 ⊢
    split at hp2
    · rename_i hpu; injection hp2 with hp2; subst hp2; exact ⟨u, by simp, hpu.symm, hu⟩
    · rename_i hpu
      split at hp2
      · cases hp2
      · rename_i hpp
        obtain ⟨w, a, b, c⟩ := h.fwd p wd2 hp2
        refine ⟨w, ?_, b, c⟩
        rw [if_neg, if_neg]
        · exact a
        · -- `wd2` is not the path's old descriptor: that one's entry is listed under `path`, this one's under `p`
          exact fun hc => hpp (b.symm.trans (h.path_of hc a))
        · -- nor the answered one: its entry would be the stored entry, listed under the stored path
          intro hc; subst hc
          rcases hcase with hc | hc
          · rw [a] at hc; injection hc with hc; exact hpu (hc ▸ b.symm)
          · rw [a] at hc; cases hc.1
  · intro k w hk
    rw [hW] at hk; rw [hP]
    generalize l.addEntry path fl rc wd = u at hu hcase hk ⊢
    split at hk
    · rename_i hkw; injection hk with hk; subst hk; exact ⟨hu.trans hkw.symm, by simp [hkw]⟩
    · rename_i hkw
      split at hk
      · cases hk
      · rename_i hold
        obtain ⟨a, b⟩ := h.bwd k w hk
        refine ⟨a, ?_⟩
        rw [if_neg, if_neg]
        · exact b
        · intro hc; exact hold (hc ▸ b)
        · -- `w` is not listed under the stored path: that path belongs to `wd` (listed) or is `path`
          intro hc
          rcases hcase with hl | hl
          · exact hkw (by have := (h.bwd _ _ hl).2; rw [← hc, b] at this; injection this)
          · exact hold (by rw [← hl.2, ← hc]; exact b)
  · rw [hW, if_neg (Ne.symm hwd)]
    split
    · rfl
    · exact h.no_zero

theorem Lib.Inv.register {l : Lib} (h : l.Inv) (hn : l.NoRec) (env : Env) (hk : env.K0) (path : Path) (fl : BitVec 32) :
    (l.register env path fl false).1.Inv ∧ (l.register env path fl false).1.NoRec := by
  cases ha : env.addWatch path (l.reqFlags path fl) with
  | error e => rw [Lib.register_err false ha]; exact ⟨h, hn⟩
  | ok wd => rw [Lib.register_ok false ha]; exact ⟨h.applyAdd _ _ _ _ (hk _ _ _ ha), hn.applyAdd h _ _ _⟩

theorem Lib.Inv.add {l : Lib} (h : l.Inv) (hn : l.NoRec) (env : Env) (hk : env.K0) (arg : Path) (ops : BitVec 32) (nf : Bool) :
    (l.add env arg ops nf).1.Inv ∧ (l.add env arg ops nf).1.NoRec := by
  rw [Lib.add_eq]; exact h.register hn env hk _ _

theorem rmAll_one (env : Env) (wd : Nat) :
    rmAll env [wd] = ((env.rm wd).1, [.rmWatch wd], if (env.rm wd).2 then none else some (.errno "EINVAL")) := by
  unfold rmAll
  cases h : env.rm wd with
  | mk env' ok => cases ok <;> rfl

theorem Lib.remove_listed {l : Lib} (h : l.Inv) (hn : l.NoRec) (env : Env) {arg : Path} {wd : Nat}
    (hp : alLookup (clean arg) l.pathT = some wd) :
    ∃ w, alLookup wd l.wdT = some w ∧ w.wd = wd ∧ w.path = clean arg ∧
      l.remove env arg = (l.dropWatch w, (env.rm wd).1,
        { ret := if (env.rm wd).2 then none else some (.errno "EINVAL"), sys := [.rmWatch wd] }) := by
  obtain ⟨w, hw, hwp, hww⟩ := h.fwd _ _ hp
  refine ⟨w, hw, hww, hwp, ?_⟩
  unfold Lib.remove
  rw [Lib.removePath_listed (by rw [hn.off]; rfl) hp hw, hn.entries wd w hw]
  simp only [Bool.false_and, Bool.false_eq_true, if_false, Bool.not_false, if_true, rmAll_one, Lib.dropWatch, hwp, hww]

theorem Lib.Inv.remove' {l : Lib} (h : l.Inv) (hn : l.NoRec) (env : Env) (arg : Path) :
    (l.remove env arg).1.Inv ∧ l.ShrinksTo (l.remove env arg).1 ∧ (l.remove env arg).2.2.panic = false := by
  cases hp : alLookup (clean arg) l.pathT with
  | none => rw [Lib.remove_unlisted hn.off env hp]; exact ⟨h, .refl l, rfl⟩
  | some wd =>
    obtain ⟨w, hw, hww, _, he⟩ := Lib.remove_listed h hn env hp
    rw [he]
    exact ⟨h.drop w (by rw [hww]; exact hw), .drop l w, rfl⟩

theorem Lib.Inv.remove {l : Lib} (h : l.Inv) (hn : l.NoRec) (env : Env) (arg : Path) :
    (l.remove env arg).1.Inv ∧ (l.remove env arg).1.NoRec ∧ (l.remove env arg).2.2.panic = false :=
  (h.remove' hn env arg).imp_right (And.imp_left hn.shrink)

theorem Lib.Inv.afterDeleteSelf' {l : Lib} (h : l.Inv) (w : Watch) (hw : alLookup w.wd l.wdT = some w) (r : Raw) :
    (l.afterDeleteSelf w r).Inv ∧ l.ShrinksTo (l.afterDeleteSelf w r) := by
  unfold Lib.afterDeleteSelf
  split
  · exact ⟨h.drop w hw, .drop l w⟩
  · exact ⟨h, .refl l⟩

theorem Lib.Inv.afterDeleteSelf {l : Lib} (h : l.Inv) (hn : l.NoRec) (w : Watch) (hw : alLookup w.wd l.wdT = some w) (r : Raw) :
    (l.afterDeleteSelf w r).Inv ∧ (l.afterDeleteSelf w r).NoRec :=
  (h.afterDeleteSelf' w hw r).imp_right hn.shrink

theorem Lib.Inv.afterMoveSelf_eq {l : Lib} (h : l.Inv) (hn : l.NoRec) (env : Env) (w : Watch) (r : Raw) :
    ∃ br, l.afterMoveSelf env w r =
      (l.remove env w.path).1.emit (l.remove env w.path).2.1 { sys := (l.remove env w.path).2.2.sys } br w r :=
  afterMoveSelf_quiet l env w r hn.off (h.remove' hn env w.path).2.2

theorem Lib.Inv.afterMoveSelf {l : Lib} (h : l.Inv) (hn : l.NoRec) (env : Env) (w : Watch) (r : Raw) :
    (l.afterMoveSelf env w r).lib.Inv ∧ (l.afterMoveSelf env w r).lib.NoRec ∧ (l.afterMoveSelf env w r).out.panic = false := by
  obtain ⟨br, he⟩ := h.afterMoveSelf_eq hn env w r
  obtain ⟨hi', hs', _⟩ := h.remove' hn env w.path
  obtain ⟨g, br', hg⟩ := emit_eq (l.remove env w.path).1 (l.remove env w.path).2.1 { sys := (l.remove env w.path).2.2.sys } br w r
  rw [he, hg]
  exact ⟨hi'.ring g, hn.shrink (hs'.ring g), rfl⟩

/-- **`handleEvent` for a listed watch.** `L`, `E`: tables and kernel before `emit`; they keep the invariant and only drop.
The ring is left existential because nothing here reads it: it is `L.ring`, or what `newEvent_ring` says where `emit` gets
as far as `newEvent`. Events and Errors: `handle_events`, `C10.handle_no_errors`. -/
theorem Lib.handle_eq {l : Lib} (hi : l.Inv) (hn : l.NoRec) (env : Env) {r : Raw} {w : Watch}
    (hw : alLookup r.wd l.wdT = some w) :
    let rm := (l.afterDeleteSelf w r).remove env w.path
    let L := if ignoredOrUnmount r.mask then l.dropWatch w else if test r.mask IN_MOVE_SELF then rm.1 else l.afterDeleteSelf w r
    let E := if !ignoredOrUnmount r.mask && test r.mask IN_MOVE_SELF then rm.2.1 else env
    (L.Inv ∧ l.ShrinksTo L) ∧
    (∃ g, (l.handle env r).lib = { L with ring := g }) ∧ (l.handle env r).env = E ∧ (l.handle env r).out.panic = false := by
  intro rm L E
  have hrec := hn.entries _ _ hw
  have hww : alLookup w.wd l.wdT = some w := by rw [(hi.bwd _ _ hw).1]; exact hw
  obtain ⟨hi1, hs1⟩ := hi.afterDeleteSelf' w hww r
  have hn1 := hn.shrink hs1
  cases hk : ignoredOrUnmount r.mask with
  | true =>
    simp only [L, E, hk, if_true, Bool.not_true, Bool.false_and, Bool.false_eq_true, if_false]
    rw [handle_ignored env hw hk]
    exact ⟨⟨hi.drop w hww, .drop l w⟩, ⟨_, rfl⟩, rfl, rfl⟩
  | false =>
    cases hm : test r.mask IN_MOVE_SELF with
    | true =>
      simp only [L, E, hk, hm, if_true, Bool.not_false, Bool.and_self, Bool.false_eq_true, if_false]
      obtain ⟨br, he⟩ := hi1.afterMoveSelf_eq hn1 env w r
      obtain ⟨g, br', hg⟩ := emit_eq rm.1 rm.2.1 { sys := rm.2.2.sys } br w r
      rw [handle_moveSelf env hw hk hm, hrec, if_neg (by simp), he, hg]
      exact ⟨⟨(hi1.remove' hn1 env _).1, hs1.trans (hi1.remove' hn1 env _).2.1⟩, ⟨g, rfl⟩, rfl, rfl⟩
    | false =>
      simp only [L, E, hk, hm, Bool.false_eq_true, if_false, Bool.and_false]
      obtain ⟨g, br', hg⟩ := emit_eq (l.afterDeleteSelf w r) env {} (if test r.mask IN_DELETE_SELF then .deleteSelf else .plain) w r
      rw [handle_ordinary env hw hk hm, recurseAfter_norec _ _ _ _ hrec, hg]
      exact ⟨⟨hi1, hs1⟩, ⟨g, rfl⟩, rfl, rfl⟩

theorem Lib.Inv.handle' {l : Lib} (h : l.Inv) (hn : l.NoRec) (env : Env) (r : Raw) :
    (l.handle env r).lib.Inv ∧ l.ShrinksTo (l.handle env r).lib ∧ (l.handle env r).out.panic = false := by
  cases hw : alLookup r.wd l.wdT with
  | none => rw [handle_unknown env hw]; exact ⟨h, .refl l, rfl⟩
  | some w =>
    obtain ⟨⟨a, b⟩, ⟨g, hl⟩, _, hp⟩ := Lib.handle_eq h hn env hw
    rw [hl]
    exact ⟨a.ring g, b.ring g, hp⟩

theorem Lib.Inv.handle {l : Lib} (h : l.Inv) (hn : l.NoRec) (env : Env) (r : Raw) :
    (l.handle env r).lib.Inv ∧ (l.handle env r).lib.NoRec ∧ (l.handle env r).out.panic = false :=
  (h.handle' hn env r).imp_right (And.imp_left hn.shrink)

theorem Lib.Inv.stepRecord' {l : Lib} (h : l.Inv) (hn : l.NoRec) (env : Env) (r : Raw) :
    (l.stepRecord env r).lib.Inv ∧ l.ShrinksTo (l.stepRecord env r).lib ∧ (l.stepRecord env r).out.panic = false := by
  rw [stepRecord_eq]; exact h.handle' hn env r

theorem Lib.Inv.stepRecord {l : Lib} (h : l.Inv) (hn : l.NoRec) (env : Env) (r : Raw) :
    (l.stepRecord env r).lib.Inv ∧ (l.stepRecord env r).lib.NoRec ∧ (l.stepRecord env r).out.panic = false :=
  (h.stepRecord' hn env r).imp_right (And.imp_left hn.shrink)

theorem Lib.Inv.stepRecords' {l : Lib} (h : l.Inv) (hn : l.NoRec) (env : Env) (rs : List Raw) :
    (l.stepRecords env rs).1.Inv ∧ l.ShrinksTo (l.stepRecords env rs).1 ∧ (l.stepRecords env rs).2.2.1.panic = false := by
  induction rs generalizing l env with
  | nil => exact ⟨h, .refl l, rfl⟩
  | cons r rs ih =>
    obtain ⟨a, b, c⟩ := h.stepRecord' hn env r
    simp only [Lib.stepRecords, c, Bool.false_eq_true, if_false]
    obtain ⟨a', b', c'⟩ := ih a (hn.shrink b) (l.stepRecord env r).env
    exact ⟨a', b.trans b', by simp [Out.append, c, c']⟩

theorem Lib.Inv.stepRecords {l : Lib} (h : l.Inv) (hn : l.NoRec) (env : Env) (rs : List Raw) :
    (l.stepRecords env rs).1.Inv ∧ (l.stepRecords env rs).1.NoRec ∧ (l.stepRecords env rs).2.2.1.panic = false :=
  (h.stepRecords' hn env rs).imp_right (And.imp_left hn.shrink)

end Fsn
