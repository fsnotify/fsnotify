import FsnVerif.Generated.Tables
/-! Tie T (cookie ring): the part of `newEvent` that is not a flag table is modelled by hand
(`Model/Inotify.lean`, `Ring`) and tied by differential execution; this pins its source text, so
that any edit of the ring code breaks an obligation of C11 and triggers the failing-input search. -/
namespace Bridge

theorem inotifyNewEventOp_residue : Gen.inotifyNewEventOp.residue = [
  "if cookie != 0 { if mask&unix.IN_MOVED_FROM == unix.IN_MOVED_FROM { w.cookiesMu.Lock() w.cookies[w.cookieIndex] = koekje{cookie: cookie, path: e.Name} w.cookieIndex++ if w.cookieIndex > 9 { w.cookieIndex = 0 } w.cookiesMu.Unlock() } else if mask&unix.IN_MOVED_TO == unix.IN_MOVED_TO { w.cookiesMu.Lock() var prev string for _, c := range w.cookies { if c.cookie == cookie { prev = c.path break } } w.cookiesMu.Unlock() e.renamedFrom = prev } }"] := rfl

end Bridge
