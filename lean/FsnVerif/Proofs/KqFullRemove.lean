import FsnVerif.Proofs.KqFullInv
import FsnVerif.Proofs.KqFullFrame
/-!
# `Remove` of a watched directory over the full kqueue model

The invariant's `bydir` clause (every entry's descriptor is in the `byDir` set of its parent) makes
`watchesInDir` complete, the children loop removes every path it is given (`rm_spec`), and `rm` never adds an entry.
-/
namespace KqF
open Fsn

/-- **`Remove` of a watched directory releases the watches of its entries**: afterwards the only watches left
directly inside the directory are ones the user added himself (`fuel + 2`: one `rm` for the directory, one more for
each of its entries; `Remove` has `KqF.fuel = 6`) -/
theorem remove_dir_releases_entries (fuel : Nat) (name : Path) (w : W) (h : Inv w.s) (hc : w.s.closed = false) (info : KW)
    (hi : found (clean name) w.s = some info) (hd : info.isDir = true) :
    ∀ k e, alLookup k (rm (fuel + 2) name true w).2.s.wd = some e → dir e.name = clean name → e.name ∈ w.s.byUser := by
  intro k e hk hdir
  rw [rm_succ, rmStep_found _ _ w h info hi] at hk
  -- the world after the directory's own watch is gone
  have h1 := (afterCore_inv h hi (N := fun _ _ => True) (fun _ _ _ => trivial)).1
  have hc1 : (afterCore w info (clean name)).s.closed = false := hc
  have hu1 : ∀ p, p ∈ (afterCore w info (clean name)).s.byUser → p ∈ w.s.byUser := fun p hp => (List.mem_filter.mp hp).1
  generalize afterCore w info (clean name) = w1 at hk h1 hc1 hu1
  simp only [rmChildren, hd, Bool.and_self, if_true, bind_apply, pure_apply, show (watchesInDir (clean name) w1).2 = w1 from rfl] at hk
  -- the children loop: after the paths `done`, every entry is an entry of `w1` not named one of them
  obtain ⟨hin1, hnot⟩ :=
    Hoare.forUntil
      (fun done w' => Inv w'.s ∧ w'.s.closed = false ∧ AllEnt (fun k e => alLookup k w1.s.wd = some e ∧ e.name ∉ done) w'.s) _
      (R := fun _ w' => AllEnt (fun k e => alLookup k w1.s.wd = some e ∧ e.name ∉ (watchesInDir (clean name) w1).1) w'.s) _
      (fun done p _ _ w' ⟨i1, i2, i3⟩ => by
        simp only [bind_apply, get, i2, Bool.false_eq_true, if_false, pure_apply]
        have := rm_next fuel p true _ done w' i1 i3
        exact ⟨this.1, (Frame.keeps_rm frame_sameClosed w' _ _ _ w' rfl).trans i2, this.2⟩)
      (fun w' hw' => hw'.2.2) w1 ⟨h1, hc1, fun _ _ hx => ⟨hx, by simp⟩⟩ k e hk
  -- the entry was there after the core step, under the directory: its descriptor is in byDir
  have hbd := h1.bydir k e hin1
  rw [hdir] at hbd
  by_cases hu : w1.s.byUser.contains e.name = true
  · exact hu1 _ (by simpa using hu)
  · exfalso
    apply hnot
    simp only [watchesInDir, get, bind_apply, pure_apply, List.mem_filter, List.mem_map, Bool.not_eq_true']
    exact ⟨⟨k, hbd, by rw [hin1]; rfl⟩, by simpa using hu⟩

end KqF
