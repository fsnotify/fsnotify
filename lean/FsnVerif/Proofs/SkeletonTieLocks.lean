import FsnVerif.Generated.Skeleton
import FsnVerif.Expected.Skeleton
/-! Tie T (lock facts): which functions touch the tables without holding the mutex themselves. -/
namespace SkeletonTie

theorem needMu_ok : Gen.needMuFromCaller = Expected.needMuFromCaller ∧ Gen.needCookiesMuFromCaller = Expected.needCookiesMuFromCaller := ⟨rfl, rfl⟩

end SkeletonTie
