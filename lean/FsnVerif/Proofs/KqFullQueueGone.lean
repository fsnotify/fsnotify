import FsnVerif.Proofs.KqFullInv
/-!
# `Close` when the queue is gone already (finding F18, repaired)

`Close()` marks the Watcher closed and then runs `rm` for every path. The reader goroutine exits as soon as a
send finds the Watcher closed, and closes the kqueue on its way out — so `register(EV_DELETE)` may fail for
every path `Close` still has to release. Before the repair `rm` returned at that point and the descriptor
stayed open. In the model: the kernel's knotes (ghost) are replaced by ANY list after `closed := true`
(the empty list is "the queue is gone"); the descriptors and tables end up exactly as in the undisturbed `Close`.
-/
namespace KqF
open Fsn

/-- on a closed Watcher `rm(name, false)` releases the entry it finds whether or not `register(EV_DELETE)`
succeeds: `unix.Close` drops the knote anyway, so both branches end in the same world -/
theorem rm_closed (fuel : Nat) (name : Path) (w : W) (hc : w.s.closed = true) (info : KW)
    (hi : found (clean name) w.s = some info) :
    rm (fuel + 1) name false w = (none, afterCore w info (clean name)) := by
  have hi' : alLookup _ w.s.wd = some info := hi
  -- without a knote `register(EV_DELETE)` fails and `unix.Close` has none to erase: `alErase_idem`
  cases hk : alHas info.wd w.s.knotes <;>
    simp only [rm_succ, rmStep, rmChildren, bind_apply, byPath, get, pure_apply, hi', registerDelete, hk, rmErr, hc, modify, closeFd,
      afterCore, alErase_idem, Bool.not_true, Bool.false_eq_true, if_false, if_true, Bool.false_and]

def noKn (w : W) : W := { w with s := { w.s with knotes := [] } }

@[simp] theorem noKn_noKn (w : W) : noKn (noKn w) = noKn w := rfl

/-- … hence, knotes aside, it does there what it does when there are none -/
theorem noKn_rm_closed (fuel : Nat) (name : Path) (w : W) (hc : w.s.closed = true) :
    noKn (rm fuel name false w).2 = noKn (rm fuel name false (noKn w)).2 ∧ (rm fuel name false w).2.s.closed = true := by
  cases fuel with
  | zero => exact ⟨rfl, hc⟩
  | succ fuel =>
    cases hl : found (clean name) w.s with
    | none => rw [rm_succ, rmStep_notFound _ _ w hl, rmStep_notFound _ _ (noKn w) hl]; exact ⟨rfl, hc⟩
    | some info => rw [rm_closed _ _ w hc info hl, rm_closed _ _ (noKn w) hc info hl]; exact ⟨rfl, hc⟩

theorem noKn_closeLoop (ps : List Path) : ∀ (w : W), w.s.closed = true →
    noKn (closeLoop ps w).2 = noKn (closeLoop ps (noKn w)).2 := by
  induction ps with
  | nil => intro w _; rfl
  | cons p ps ih =>
    intro w hc
    obtain ⟨h1, h2⟩ := noKn_rm_closed fuel p w hc
    show noKn (closeLoop ps (rm fuel p false w).2).2 = noKn (closeLoop ps (rm fuel p false (noKn w)).2).2
    rw [ih _ h2, ih _ (noKn_rm_closed fuel p (noKn w) hc).2, h1]

/-- **`Close` releases every descriptor whatever has become of the queue**: the knotes replaced by anything
(by nothing: the reader has closed the kqueue) once the Watcher is marked closed, the loop of `Close` still
leaves no descriptor open and no table entry -/
theorem close_releases_queue_gone (w : W) (h : Inv w.s) (hc : w.s.closed = false) (kn : List (Nat × BitVec 32)) :
    let r := (closeLoop (w.s.path.map (·.1)) { w with s := { w.s with closed := true, knotes := kn } }).2
    r.s.openFds = [] ∧ r.s.wd = [] := by
  intro r
  have hsame : noKn r = noKn (close w).2 := by
    rw [close_eq w hc]
    exact (noKn_closeLoop _ _ rfl).trans (noKn_closeLoop _ { w with s := { w.s with closed := true } } rfl).symm
  obtain ⟨ho, hw, _⟩ := close_releases w h hc
  exact ⟨(congrArg (·.s.openFds) hsame).trans ho, (congrArg (·.s.wd) hsame).trans hw⟩

end KqF
