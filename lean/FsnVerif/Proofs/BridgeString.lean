import FsnVerif.Generated.Tables
import FsnVerif.Model.Bits
import FsnVerif.Proofs.BridgeEventOp
import FsnVerif.Proofs.OpStringLemmas
/-! # Tie T (`Op.String`, `Event.String`, `Event.Has`), used by C16 only -/
namespace Bridge
open Fsn

theorem eventStringShape_eq : Gen.eventStringShape = [
    ("e.renamedFrom != \"\"", "%-13s %q ← %q", ["e.Op.String()", "e.Name", "e.renamedFrom"]),
    ("", "%-13s %q", ["e.Op.String()", "e.Name"])] := rfl

theorem eventHas_eq : Gen.eventHasBody = ["return e.Op.Has(op)"] := rfl

/-- `Op.String` as written in the source (a `strings.Builder` chain, `[1:]`) equals the
table-driven model, for all 2^32 values: the builder holds `|name` for every name of the table that is
present, in table order, and cutting the first bar leaves the join (`drop_one_bars`). -/
theorem opString_eq (o : BitVec 32) : Gen.opString o = Fsn.opString o := by
  -- what the builder holds, with the table written out
  have hn : opNameTable.flatMap (fun p => if opHas o p.1 then '|' :: p.2 else []) = (opNames o).flatMap ('|' :: ·) := by
    unfold opNames
    rw [List.flatMap_assoc]
    congr; funext p; split <;> simp
  simp only [opNameTable, List.flatMap_cons, List.flatMap_nil, List.append_nil, Create, Remove, Write, Open, Read, CloseWrite,
    CloseRead, Rename, Chmod] at hn
  simp only [Gen.opString, opHas_eq, List.nil_append, List.append_assoc]
  rw [hn, drop_one_bars, Fsn.opString]
  -- the emptiness test, whichever way the source writes it (`b.Len() == 0`, `s == ""`)
  cases opNames o with
  | nil => rfl
  | cons x xs => simp <;> omega

theorem opString_residue : Gen.opString.residue = [] := rfl

end Bridge
