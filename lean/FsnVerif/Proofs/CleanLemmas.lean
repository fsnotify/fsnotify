import FsnVerif.Proofs.InvLemmas
import FsnVerif.Proofs.PathLemmas
/-! Every stored watch path is a fixed point of `clean` (so re-cleaning it in `removePath` is harmless). -/
namespace Fsn

def Lib.PathsClean (l : Lib) : Prop := ∀ wd w, alLookup wd l.wdT = some w → clean w.path = w.path

theorem Lib.pathsClean_empty : ({} : Lib).PathsClean := by intro wd w h; cases h

theorem Lib.PathsClean.applyAdd {l : Lib} (h : l.PathsClean) (path : Path) (fl : BitVec 32) (rc : Bool) (wd : Nat)
    (hp : clean path = path) : (l.applyAdd path fl rc wd).PathsClean :=
  Lib.applyAdd_all (P := fun w => clean w.path = w.path) h path fl rc wd hp (fun _ he => he)

theorem Lib.PathsClean.add {l : Lib} (h : l.PathsClean) (env : Env) (arg : Path) (ops : BitVec 32) (nf : Bool) :
    (l.add env arg ops nf).1.PathsClean := by
  rw [Lib.add_eq]
  cases ha : env.addWatch (clean arg) (l.reqFlags (clean arg) (inotifyRequest nf ops)) with
  | error e => rw [Lib.register_err false ha]; exact h
  | ok wd => rw [Lib.register_ok false ha]; exact h.applyAdd _ _ _ _ (clean_idem arg)

theorem Lib.PathsClean.remove {l : Lib} (h : l.PathsClean) (hi : l.Inv) (hn : l.NoRec) (env : Env) (arg : Path) :
    (l.remove env arg).1.PathsClean := (hi.remove' hn env arg).2.1.all h

theorem Lib.PathsClean.handle {l : Lib} (h : l.PathsClean) (hi : l.Inv) (hn : l.NoRec) (env : Env) (r : Raw) :
    (l.handle env r).lib.PathsClean := (hi.handle' hn env r).2.1.all h

theorem Lib.PathsClean.stepRecords {l : Lib} (h : l.PathsClean) (hi : l.Inv) (hn : l.NoRec) (env : Env) (rs : List Raw) :
    (l.stepRecords env rs).1.PathsClean := (hi.stepRecords' hn env rs).2.1.all h

end Fsn
