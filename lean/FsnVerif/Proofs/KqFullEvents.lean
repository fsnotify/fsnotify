import FsnVerif.Proofs.KqFullFrame
import FsnVerif.Proofs.PathLemmas
/-!
# What the reader reports for directory entries, over the full kqueue model

`sendCreateIfNew` is the one place where a Create is synthesised; `Ret` statements pin down what an
internal watch answers (never a followed link), `SilentGrow` what the adding side leaves alone.
-/
namespace KqF
open Fsn

def Ret {α : Type} (S : α → Prop) (m : M α) : Prop := ∀ w : W, S (m w).1

theorem Ret.bind {α β : Type} {S1 : α → Prop} {S : β → Prop} {m : M α} {k : α → M β} (h1 : Ret S1 m) (h2 : ∀ a, S1 a → Ret S (k a)) :
    Ret S (m >>= k) := fun w => h2 _ (h1 w) _

theorem Ret.after {α β : Type} {S : β → Prop} {m : M α} {k : α → M β} (h : ∀ a, Ret S (k a)) : Ret S (m >>= k) := fun _ => h _ _

theorem Ret.pure {α : Type} {S : α → Prop} (a : α) (h : S a) : Ret S (pure a : M α) := fun _ => h

theorem Ret.ite {α : Type} {S : α → Prop} {c : Prop} [Decidable c] {m1 m2 : M α} (h1 : Ret S m1) (h2 : Ret S m2) :
    Ret S (if c then m1 else m2) := by
  split
  · exact h1
  · exact h2

def NameOrEmpty (name : Path) : Except Err Path → Prop
  | .error _ => True
  | .ok p => p = [] ∨ p = name

/-- internal watches (`listDir = true`) never follow links: what `openNew` hands on is the name it was given -/
def PreSame (name : Path) : Pre → Prop
  | .error r => NameOrEmpty name r
  | .ok (n, _, _) => n = name

theorem ret_openNew_internal (name : Path) (info0 : KW) : Ret (PreSame name) (openNew name info0 true) := by
  rw [openNew_eq]
  refine Ret.after fun r => ?_
  cases r with
  | error e => exact .pure _ trivial
  | ok fi =>
    -- `listDir`: the `if` that follows links takes the other branch
    refine .ite (.pure _ (.inl rfl)) (Ret.after fun r => ?_)
    cases r with
    | error e => exact .pure _ trivial
    | ok fd => exact .pure _ rfl

theorem ret_finishAdd (wdf : Path → M (Option Err)) (name : Path) (info : KW) (already : Bool) (flags : BitVec 32) :
    Ret (NameOrEmpty name) (finishAdd wdf name info already flags) := by
  rw [finishAdd_eq]
  refine Ret.after fun r => ?_
  cases r with
  | error e => exact .after fun _ => .pure _ trivial
  | ok u =>
    refine Ret.after fun _ => ?_
    unfold dirTail
    refine .ite (Ret.after fun b => ?_) (.pure _ (.inr rfl))
    refine .ite (.pure _ (.inl rfl)) (.ite (Ret.after fun r => ?_) (.pure _ (.inr rfl)))
    cases r
    · exact .pure _ (.inr rfl)
    · exact .pure _ trivial

theorem ret_addWatch_internal : ∀ fuel n fl, Ret (NameOrEmpty (clean n)) (addWatch fuel n fl true)
  | 0, _, _ => .after fun _ => .pure _ trivial
  | fuel + 1, n, fl => by
    unfold addWatch
    refine Ret.after fun s0 => .ite (.pure _ trivial) (Ret.after fun (info0, already0) => ?_)
    refine .ite (ret_finishAdd _ _ _ _ _) ((ret_openNew_internal (clean n) info0).bind fun pre hpre => ?_)
    cases pre with
    | error r => exact .pure _ hpre
    | ok v => exact (show v.1 = clean n from hpre) ▸ ret_finishAdd _ _ _ _ _

theorem ret_internalWatch (fuel : Nat) (path : Path) (k : Kind) :
    Ret (NameOrEmpty (clean path)) (internalWatch (addWatch fuel) path k) := by
  unfold internalWatch
  exact .ite (.after fun _ => ret_addWatch_internal _ _ _) (ret_addWatch_internal _ _ _)

structure SilentGrow (a b : W) : Prop where
  seen : ∀ p, p ∈ a.s.seen → p ∈ b.s.seen
  closed : b.s.closed = a.s.closed
  events : b.events = a.events
  errors : b.errors = a.errors

theorem frameAdd_silentGrow : FrameAdd SilentGrow where
  refl := fun _ => ⟨fun _ h => h, rfl, rfl, rfl⟩
  trans := fun _ _ _ h1 h2 => ⟨fun p hp => h2.seen p (h1.seen p hp), h2.closed.trans h1.closed, h2.events.trans h1.events, h2.errors.trans h1.errors⟩
  tape := fun _ _ _ => ⟨fun _ h => h, rfl, rfl, rfl⟩
  opened := fun _ _ _ => ⟨fun _ h => h, rfl, rfl, rfl⟩
  grow := fun _ _ hs _ hc => ⟨hs, hc, rfl, rfl⟩

theorem announce_eq (path : Path) (w : W) (hc : w.s.closed = false) :
    announce path w = (true, { w with events := w.events ++ if w.s.seen.contains path then [] else [⟨path, Create⟩] }) := by
  have hne : (Create : BitVec 32) ≠ 0#32 := by decide
  by_cases hm : path ∈ w.s.seen <;> simp [announce, seenBefore, get, sendEvent, hm, hc, hne]

/-- **`sendCreateIfNew`**: Create is delivered exactly when the path has not been seen; apart from that nothing is
delivered, nothing seen is forgotten, the Watcher stays open; a call that succeeds leaves the path seen -/
theorem sendCreateIfNew_spec (path : Path) (k : Kind) (w : W) (hc : w.s.closed = false) (hp : clean path = path) :
    SilentGrow { w with events := w.events ++ if w.s.seen.contains path then [] else [⟨path, Create⟩] } (sendCreateIfNew path k w).2 ∧
    ((sendCreateIfNew path k w).1 = none → path ∈ (sendCreateIfNew path k w).2.s.seen) := by
  simp only [sendCreateIfNew, bind_apply, announce_eq path w hc, Bool.not_true, Bool.false_eq_true, if_false]
  generalize ({ w with events := _ } : W) = w1
  have hk := keeps_internalWatch (keeps_addWatch frameAdd_silentGrow w1 fuel) path k w1 (frameAdd_silentGrow.refl _)
  have hr := ret_internalWatch fuel path k w1
  cases hres : (internalWatch (addWatch fuel) path k w1).1 with
  | error e => exact ⟨hk, fun hn => by cases hn⟩
  | ok watched =>
    -- the internal watch answered `[]` or `path` itself, so it is `path` that is marked
    have : (if watched != [] then watched else path) = path := by
      rw [hres, hp] at hr; rcases hr with rfl | rfl <;> simp
    simp only [bind_apply, pure_apply, this]
    exact ⟨keeps_markSeenTrue frameAdd_silentGrow w1 path _ hk, fun _ => mem_setInsert_iff.mpr (.inr rfl)⟩

/-- **Create exactly once**: after a successful `sendCreateIfNew` for an entry, another one for the same
entry — whatever the environment answers this time — delivers nothing -/
theorem create_once (path : Path) (k k' : Kind) (w : W) (hc : w.s.closed = false) (hp : clean path = path)
    (h1 : (sendCreateIfNew path k w).1 = none) (tape' : List Ans) :
    (sendCreateIfNew path k' { (sendCreateIfNew path k w).2 with tape := tape' }).2.events = (sendCreateIfNew path k w).2.events := by
  obtain ⟨c1, c2⟩ := sendCreateIfNew_spec path k w hc hp
  refine (sendCreateIfNew_spec path k' { (sendCreateIfNew path k w).2 with tape := tape' } (c1.closed.trans hc) hp).1.events.trans ?_
  simp [c2 h1]

/-- **a name that was removed is reported again**: the Remove notification un-marks it, and the next
`sendCreateIfNew` delivers Create -/
theorem remove_then_create (path : Path) (k : Kind) (w : W) (hc : w.s.closed = false) (hp : clean path = path) :
    (sendCreateIfNew path k (markSeen path false w).2).2.events = w.events ++ [⟨path, Create⟩] := by
  have hs : (markSeen path false w).2.s.seen.contains path = false := by
    simp [markSeen, modify, List.contains_eq_mem, List.mem_filter]
  refine (sendCreateIfNew_spec path k (markSeen path false w).2 hc hp).1.events.trans ?_
  simp only [hs]
  rfl

theorem join_clean (a b : Path) : clean (join a b) = join a b := by
  unfold join
  split
  · exact clean_idem _
  · split <;> exact clean_idem _

/-- what `dirChange` has done at any point of its loop over the listing `files`: delivered Creates only, each for an entry
of the listing that was not seen when it started; delivered nothing else, forgot nothing, did not close -/
def DcInv (w0 : W) (d : Path) (files : List (Path × Except FsErr Kind)) (w : W) : Prop :=
  w.s.closed = false ∧ w.errors = w0.errors ∧ (∀ p, p ∈ w0.s.seen → p ∈ w.s.seen) ∧
  ∃ cs : List Path, w.events = w0.events ++ cs.map (fun p => (⟨p, Create⟩ : Ev)) ∧
    ∀ p, p ∈ cs → (∃ f, f ∈ files ∧ p = join d f.1) ∧ p ∉ w0.s.seen

/-- one more entry: `sendCreateIfNew` delivers its Create iff the entry is not seen now, hence was not seen at the start -/
theorem DcInv.step {w0 w : W} {d : Path} {files : List (Path × Except FsErr Kind)} (h : DcInv w0 d files w)
    {f : Path × Except FsErr Kind} (hf : f ∈ files) (k : Kind) : DcInv w0 d files (sendCreateIfNew (join d f.1) k w).2 := by
  obtain ⟨hc, he, hs, cs, hev, hcs⟩ := h
  obtain ⟨⟨s4, s3, s1, s2⟩, _⟩ := sendCreateIfNew_spec (join d f.1) k w hc (join_clean _ _)
  refine ⟨s3.trans hc, s2.trans he, fun p hp => s4 p (hs p hp), ?_⟩
  by_cases hseen : join d f.1 ∈ w.s.seen
  · exact ⟨cs, by simp [s1, hseen, hev], hcs⟩
  · refine ⟨cs ++ [join d f.1], by simp [s1, hseen, hev], fun p hp => ?_⟩
    rcases List.mem_append.mp hp with hp | hp
    · exact hcs p hp
    · rw [List.mem_singleton.mp hp]
      exact ⟨⟨f, hf, rfl⟩, fun h0 => hseen (hs _ h0)⟩

/-- **`dirChange`**: whatever the directory holds and whatever the environment answers, it delivers nothing but
Creates, each for an entry of the listing `ReadDir` answered that had not been seen before; it puts nothing on
Errors itself and forgets nothing it has seen -/
theorem dirChange_spec (d : Path) (w : W) (hc : w.s.closed = false) :
    ∃ files, ((askReadDir d w).1 = .ok files ∨ files = []) ∧ DcInv w d files (dirChange d w).2 := by
  obtain ⟨t, b, hw1⟩ := asks_readDir d w
  have start : ∀ files, DcInv w d files (askReadDir d w).2 := fun _ => by
    rw [hw1]; exact ⟨hc, rfl, fun _ h => h, [], by simp, fun p hp => by cases hp⟩
  unfold dirChange
  simp only [bind_apply]
  cases hr : (askReadDir d w).1 with
  | error e => exact ⟨[], .inr rfl, by cases e <;> exact start _⟩
  | ok files =>
    refine ⟨files, .inl rfl, ?_⟩
    simp only [bind_apply, pure_apply]
    refine Hoare.forUntil (fun _ w' => DcInv w d files w') _ (R := fun _ w' => DcInv w d files w') files
      (fun done f rest hpos w' hw' => ?_) (fun _ h => h) _ (start _)
    cases hk : f.2 with
    | error e => cases e <;> exact hw'
    | ok k =>
      have hinv := hw'.step (f := f) (hpos ▸ by simp) k
      simp only [bind_apply]
      cases hres : (sendCreateIfNew (join d f.1) k w').1 with
      | none => exact hinv
      | some e => rcases e with _ | _ | (_ | _ | _) <;> exact hinv

end KqF
