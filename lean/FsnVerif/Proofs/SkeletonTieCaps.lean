import FsnVerif.Generated.Skeleton
import FsnVerif.Expected.Skeleton
/-! Tie T (capacities, syscall sites, package-level state). -/
namespace SkeletonTie

theorem syscalls_ok : Gen.syscalls = Expected.syscalls := rfl
theorem chanCaps_ok : Gen.chanCaps = Expected.chanCaps := rfl
theorem pkgVars_ok : Gen.pkgVarsWritten = [] ∧ Gen.pkgVars = Expected.pkgVars := ⟨rfl, rfl⟩

end SkeletonTie
