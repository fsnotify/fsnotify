import FsnVerif.Model.Decode
/-! Round trip between the kernel's record layout and the decode loop, for every list of
well-formed records (any number, any name length / padding residue, any position). -/
namespace Fsn

theorem le32_toLe32 (n : Nat) (h : n < 4294967296) : le32 (toLe32 n) = n := by
  simp [le32, toLe32]
  omega

theorem toLe32_length (n : Nat) : (toLe32 n).length = 4 := rfl

/-- what the kernel guarantees about a record (K2): fields fit 32 bits, `len` is the name field's length -/
structure Raw.WF (r : Raw) : Prop where
  wd_lt  : r.wd < 4294967296
  len_lt : r.len < 4294967296
  len_eq : r.name.length = r.len

theorem encode_length (r : Raw) : (encode r).length = 16 + r.name.length := by
  simp [encode, toLe32_length]; omega

private theorem le32_append4 (a b c d : Nat) (t : List Nat) : le32 (a :: b :: c :: d :: t) = le32 [a, b, c, d] :=
  rfl

theorem le32_toLe32_append (n : Nat) (h : n < 4294967296) (t : List Nat) : le32 (toLe32 n ++ t) = n :=
  (le32_append4 _ _ _ _ t).trans (le32_toLe32 n h)

theorem drop_toLe32_append (n k : Nat) (t : List Nat) : (toLe32 n ++ t).drop (k + 4) = t.drop k := rfl

theorem parseHeader_encode (r : Raw) (h : r.WF) (tail : List Nat) : parseHeader (encode r ++ tail) = r := by
  simp only [parseHeader, encode, List.append_assoc, drop_toLe32_append, List.drop_zero, le32_toLe32_append,
    h.wd_lt, h.len_lt, r.mask.isLt, r.cookie.isLt, List.take_left' h.len_eq, BitVec.ofNat_toNat, BitVec.setWidth_eq]

theorem drop_encode (r : Raw) (h : r.WF) (tail : List Nat) : (encode r ++ tail).drop (16 + r.len) = tail := by
  have : (encode r).length = 16 + r.len := by rw [encode_length, h.len_eq]
  rw [← this]; simp

theorem decodeLoop_encode_cons (r : Raw) (h : r.WF) (rest : List Nat) (fuel : Nat) (acc : List Raw) :
    decodeLoop (fuel + 1) (encode r ++ rest) acc = decodeLoop fuel rest (r :: acc) := by
  have hl : (encode r ++ rest).length = 16 + r.len + rest.length := by
    rw [List.length_append, encode_length, h.len_eq]
  rw [decodeLoop, if_neg (by omega)]
  simp only [parseHeader_encode r h]
  rw [if_neg (by omega), drop_encode r h]

theorem decodeLoop_encode (recs : List Raw) (hwf : ∀ r ∈ recs, r.WF) (trailing : List Nat) (ht : trailing.length < 16)
    (fuel : Nat) (hf : recs.length < fuel) (acc : List Raw) :
    decodeLoop fuel (recs.flatMap encode ++ trailing) acc = .ok (acc.reverse ++ recs) := by
  induction recs generalizing fuel acc with
  | nil =>
    cases fuel with
    | zero => omega
    | succ f => simp [decodeLoop, ht]
  | cons r rs ih =>
    cases fuel with
    | zero => omega
    | succ f =>
      rw [List.flatMap_cons, List.append_assoc, decodeLoop_encode_cons r (hwf r (by simp)),
        ih (fun x hx => hwf x (by simp [hx])) f (by simp at hf; omega)]
      simp

theorem flatMap_encode_length_ge (recs : List Raw) : 16 * recs.length ≤ (recs.flatMap encode).length := by
  induction recs with
  | nil => simp
  | cons r rs ih =>
    rw [List.flatMap_cons, List.length_append, encode_length, List.length_cons]
    omega

/-- **decode ∘ encode = id** on whole buffers (C01: nothing skipped, nothing decoded twice; C08:
names are sliced exactly) -/
theorem decode_encode (recs : List Raw) (hwf : ∀ r ∈ recs, r.WF) (trailing : List Nat) (ht : trailing.length < 16) :
    decodeBuf (recs.flatMap encode ++ trailing) = .ok recs := by
  unfold decodeBuf
  have hlen : recs.length ≤ (recs.flatMap encode ++ trailing).length / 16 := by
    have := flatMap_encode_length_ge recs
    rw [List.length_append]
    omega
  rw [decodeLoop_encode recs hwf trailing ht _ (by omega) []]
  simp

theorem padName_length (nm : List Nat) (h : nm ≠ []) : (padName nm).length = (nm.length / 16 + 1) * 16 := by
  have : nm.length ≠ 0 := by simpa using h
  simp [padName, padLen, this]; omega

end Fsn
