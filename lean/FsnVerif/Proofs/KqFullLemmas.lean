import FsnVerif.Model.KqFull
import FsnVerif.Proofs.ALLemmas
/-!
# One program logic for the full kqueue model (`Model/KqFull`)

`Hoare P m Q`: started in a world satisfying `P`, the computation `m` returns `a` in a world
satisfying `Q a` — whatever is on the tape, since the triple quantifies over every world.
`Keeps I m` is `Hoare I m (fun _ => I)`; `Tr P m Q` is the triple whose assertions look at the tables (`w.s`) only.
Three classes of computations keep much for free: `Reads m` leaves the whole world alone, `Asks m` only consumes the tape
(and may set `bad`), `Pure m` leaves the tables alone (it may report, or ask): `Reads.keeps`, `Asks.keeps`, `Pure.tr`.
Later modules add `Ret S m` (`KqFullEvents`: the value returned satisfies `S` whatever the world, a triple with a
trivial precondition) and `Rel R m` (`KqFullFrame`: `R` relates the world before to the world after — a triple only
per start world `w0`, namely `Keeps (R w0) m`: `Rel.keeps`, `Rel.of_keeps`).
-/
namespace KqF
open Fsn

def Hoare {α : Type} (P : W → Prop) (m : M α) (Q : α → W → Prop) : Prop := ∀ w, P w → Q (m w).1 (m w).2

abbrev Keeps {α : Type} (I : W → Prop) (m : M α) : Prop := Hoare I m (fun _ => I)

def Tr {α : Type} (P : KS → Prop) (m : M α) (Q : α → KS → Prop) : Prop :=
  ∀ w : W, P w.s → Q (m w).1 (m w).2.s

@[simp] theorem bind_apply {α β : Type} (m : M α) (f : α → M β) (w : W) : (m >>= f) w = f (m w).1 (m w).2 := rfl
@[simp] theorem pure_apply {α : Type} (a : α) (w : W) : (pure a : M α) w = (a, w) := rfl

section logic
variable {α β : Type} {P P' : W → Prop} {Q Q' : α → W → Prop} {m : M α}

theorem Hoare.bind {f : α → M β} {R : β → W → Prop} (h1 : Hoare P m Q) (h2 : ∀ a, Hoare (Q a) (f a) R) :
    Hoare P (m >>= f) R := fun w hw => h2 _ _ (h1 w hw)

theorem Hoare.conseq (h : Hoare P m Q) (hp : ∀ w, P' w → P w) (hq : ∀ a w, Q a w → Q' a w) : Hoare P' m Q' :=
  fun w hw => hq _ _ (h w (hp w hw))

/-- the rule for `if`. `split` proves the same of any goal, but it rewrites the whole monadic term: on the bodies of
`Model/KqFull` that costs ten times what unifying with this rule does -/
theorem Hoare.ite {c : Prop} [Decidable c] {m1 m2 : M α} (h1 : Hoare P m1 Q) (h2 : Hoare P m2 Q) :
    Hoare P (if c then m1 else m2) Q := by
  split
  · exact h1
  · exact h2

/-- the rule for a `for` with early `return`: `J done` holds when the elements `done` have been worked off
without a `return`; a `return` has to establish the postcondition itself -/
theorem Hoare.forUntil {γ : Type} (J : List γ → W → Prop) (f : γ → M (Option β)) {R : Option β → W → Prop} (xs : List γ)
    (step : ∀ done x rest, done ++ x :: rest = xs →
      Hoare (J done) (f x) (fun r w => match r with | none => J (done ++ [x]) w | some b => R (some b) w))
    (fin : ∀ w, J xs w → R none w) : Hoare (J []) (KqF.forUntil f xs) R := by
  suffices h : ∀ rest done, done ++ rest = xs → Hoare (J done) (KqF.forUntil f rest) R from h xs [] rfl
  intro rest
  induction rest with
  | nil => intro done e w hw; rw [List.append_nil] at e; exact fin w (e ▸ hw)
  | cons x rest ih =>
    intro done e
    unfold KqF.forUntil
    refine Hoare.bind (step done x rest e) fun r => ?_
    cases r with
    | some b => exact fun w hw => hw
    | none => exact ih (done ++ [x]) (by rw [← e, List.append_assoc]; rfl)

end logic

section keeps
variable {α β : Type} {I : W → Prop}

theorem Keeps.bind {m : M α} {f : α → M β} (h1 : Keeps I m) (h2 : ∀ a, Keeps I (f a)) : Keeps I (m >>= f) := Hoare.bind h1 h2

theorem Keeps.pure (a : α) : Keeps I (pure a : M α) := fun _ h => h

theorem Keeps.ite {c : Prop} [Decidable c] {m1 m2 : M α} (h1 : Keeps I m1) (h2 : Keeps I m2) : Keeps I (if c then m1 else m2) :=
  Hoare.ite h1 h2

theorem Keeps.forUntil (f : α → M (Option β)) (h : ∀ x, Keeps I (f x)) (xs : List α) : Keeps I (KqF.forUntil f xs) :=
  Hoare.forUntil (fun _ => I) f xs (fun _ x _ _ => (h x).conseq (fun _ h => h) (fun r _ h => by cases r <;> exact h)) (fun _ h => h)

end keeps

def Reads {α : Type} (m : M α) : Prop := ∀ w, (m w).2 = w

def Asks {α : Type} (m : M α) : Prop := ∀ w, ∃ t b, (m w).2 = { w with tape := t, bad := b }

theorem Reads.keeps {α : Type} {m : M α} (h : Reads m) (I : W → Prop) : Keeps I m := fun w hw => by rw [h w]; exact hw

theorem Asks.keeps {α : Type} {m : M α} (h : Asks m) {I : W → Prop} (hI : ∀ w t b, I w → I { w with tape := t, bad := b }) :
    Keeps I m := fun w hw => by
  obtain ⟨t, b, e⟩ := h w
  rw [show (m w).2 = _ from e]; exact hI w t b hw

/-- the entry `byPath name` finds (a name that is not listed reads as descriptor 0) -/
abbrev found (name : Path) (s : KS) : Option KW := alLookup ((alLookup name s.path).getD 0) s.wd

theorem reads_get : Reads get := fun _ => rfl
theorem reads_byPath (n : Path) : Reads (byPath n) := by
  intro w; simp only [byPath, get, bind_apply]
  cases alLookup ((alLookup n w.s.path).getD 0) w.s.wd <;> rfl
theorem reads_byWd (fd : Nat) : Reads (byWd fd) := by
  intro w; simp only [byWd, get, bind_apply]
  cases alLookup fd w.s.wd <;> rfl
theorem reads_seenBefore (p : Path) : Reads (seenBefore p) := fun _ => rfl
theorem reads_watchesInDir (p : Path) : Reads (watchesInDir p) := fun _ => rfl
theorem reads_watchList : Reads watchList := fun _ => rfl

theorem asks_setBad (msg : String) : Asks (setBad msg) := fun w => ⟨w.tape, _, rfl⟩
theorem asks_lstat (p : Path) : Asks (askLstat p) := by
  intro w; unfold askLstat; split <;> (try split) <;> exact ⟨_, _, rfl⟩
theorem asks_readlink (p : Path) : Asks (askReadlink p) := by
  intro w; unfold askReadlink; split <;> (try split) <;> exact ⟨_, _, rfl⟩
theorem asks_readDir (p : Path) : Asks (askReadDir p) := by
  intro w; unfold askReadDir; split <;> (try split) <;> exact ⟨_, _, rfl⟩

theorem askOpen_cases (p : Path) (w : W) :
    (∃ e t b, askOpen p w = (.error e, { w with tape := t, bad := b })) ∨
    (∃ fd t, fd ∉ w.s.openFds ∧ askOpen p w = (.ok fd, { w with tape := t, s := { w.s with openFds := fd :: w.s.openFds } })) := by
  unfold askOpen
  split
  · split
    · split
      · split
        · exact Or.inl ⟨_, _, _, rfl⟩
        · rename_i hc; exact Or.inr ⟨_, _, by simpa using hc, rfl⟩
      · exact Or.inl ⟨_, _, _, rfl⟩
    · exact Or.inl ⟨_, _, _, rfl⟩
  · exact Or.inl ⟨_, _, _, rfl⟩

theorem sendEvent_world (e : Ev) (w : W) : (sendEvent e w).2 = w ∨ (sendEvent e w).2 = { w with events := w.events ++ [e] } := by
  unfold sendEvent; split <;> (try split) <;> simp
theorem sendError_world (e : Option Err) (w : W) :
    (sendError e w).2 = w ∨ ∃ err, (sendError e w).2 = { w with errors := w.errors ++ [err] } := by
  unfold sendError; split <;> (try split) <;> simp

/-! `Tr P m Q` is `Hoare (fun w => P w.s) m (fun a w => Q a w.s)` by definition; a `Hoare` rule applies to a `Tr` once `P` and `Q`
are given in that form (as `Tr.ite` does), since unification does not find them. -/

theorem Tr.bind {α β : Type} {P : KS → Prop} {m : M α} {Q : α → KS → Prop} {f : α → M β} {R : β → KS → Prop}
    (h1 : Tr P m Q) (h2 : ∀ a, Tr (Q a) (f a) R) : Tr P (m >>= f) R :=
  fun w hw => h2 _ _ (h1 w hw)

theorem Tr.pure {α : Type} {P : KS → Prop} {Q : α → KS → Prop} (a : α) (h : ∀ s, P s → Q a s) : Tr P (pure a : M α) Q :=
  fun _ hw => h _ hw

theorem Tr.ite {α : Type} {P : KS → Prop} {Q : α → KS → Prop} {c : Prop} [Decidable c] {m1 m2 : M α} (h1 : Tr P m1 Q)
    (h2 : Tr P m2 Q) : Tr P (if c then m1 else m2) Q :=
  Hoare.ite (P := fun w => P w.s) (Q := fun a w => Q a w.s) h1 h2

theorem Tr.pre {α : Type} {P P' : KS → Prop} {m : M α} {Q : α → KS → Prop} (h : Tr P m Q) (hp : ∀ s, P' s → P s) : Tr P' m Q :=
  fun w hw => h w (hp _ hw)

def Pure {α : Type} (m : M α) : Prop := ∀ w : W, (m w).2.s = w.s

theorem Pure.tr {α : Type} {m : M α} (h : Pure m) (P : KS → Prop) : Tr P m (fun _ => P) := by
  intro w hw; rw [h w]; exact hw

theorem Reads.toPure {α : Type} {m : M α} (h : Reads m) : Pure m := fun w => by rw [h w]
theorem Asks.toPure {α : Type} {m : M α} (h : Asks m) : Pure m := fun w => by
  obtain ⟨t, b, e⟩ := h w; rw [show (m w).2 = _ from e]

theorem pure_get : Pure get := reads_get.toPure
theorem pure_watchList : Pure watchList := reads_watchList.toPure
theorem pure_sendEvent (e : Ev) : Pure (sendEvent e) := fun w => by
  rcases sendEvent_world e w with h | h <;> rw [h]
theorem pure_sendError (e : Option Err) : Pure (sendError e) := fun w => by
  rcases sendError_world e w with h | ⟨_, h⟩ <;> rw [h]

theorem tr_modify (f : KS → KS) (Q : Unit → KS → Prop) : Tr (fun s => Q () (f s)) (modify f) Q := fun _ hw => hw

theorem tr_byPath (P : KS → Prop) (name : Path) :
    Tr P (byPath name) (fun r s => P s ∧ (r.2 = true → found name s = some r.1) ∧ (r.2 = false → found name s = none)) := by
  intro w hw
  simp only [byPath, get, bind_apply]
  cases h : alLookup ((alLookup name w.s.path).getD 0) w.s.wd <;> simp_all

theorem tr_forUntil {α β : Type} (P : KS → Prop) (f : α → M (Option β)) (h : ∀ x, Tr P (f x) (fun _ => P)) (xs : List α) :
    Tr P (forUntil f xs) (fun _ => P) :=
  Keeps.forUntil (I := fun w => P w.s) f h xs

/-! ## sets kept as lists (`seen`, `byUser`, the `byDir` sets) -/

theorem mem_addNew {α : Type} [BEq α] [LawfulBEq α] {x a : α} {l : List α} :
    x ∈ (if l.contains a then l else l ++ [a]) ↔ x ∈ l ∨ x = a := by
  split <;> simp_all

theorem mem_setInsert_iff {p q : Path} {l : List Path} : p ∈ setInsert q l ↔ p ∈ l ∨ p = q := mem_addNew

/-! ## the model's functions, cut at their joints

`openNew`, `finishAdd` and `rm` are written as one body each, as in `backend_kqueue.go`. Every proof about them
needs the same pieces (the `unix.Open` tail that two branches of `openNew` share, the directory part of
`finishAdd` behind a join point, one step of `rm` with the children loop behind it), so the pieces are named
once and each function gets the equation that says how it is made of them. -/

def openTail (name : Path) (info : KW) (fi : Kind) : M Pre := do
  match ← askOpen name with
  | .error e => pure (.error (.error (.fs e)))
  | .ok fd => pure (.ok (name, { info with wd := fd, isDir := isDirKind fi }, false))

theorem openNew_eq (name : Path) (info0 : KW) (listDir : Bool) : openNew name info0 listDir = (do
    match ← askLstat name with
    | .error e => pure (.error (.error (.fs e)))
    | .ok fi =>
      if fi == .socket || fi == .fifo then pure (.error (.ok [])) else
      if !listDir && fi == .symlink then do
        match ← followLink name info0 with
        | .error r => pure (.error r)
        | .ok (name2, info2, fi2) => openTail name2 info2 fi2
      else openTail name info0 fi : M Pre) := by
  unfold openNew
  refine congrArg _ (funext fun r => ?_)
  cases r with
  | error e => rfl
  | ok fi =>
    dsimp only
    split
    · rfl
    · split <;> rfl

def dirTail (wdf : Path → M (Option Err)) (name : Path) (info : KW) (already : Bool) (flags : BitVec 32) : M (Except Err Path) := do
  if info.isDir then
    let watchDir := (flags &&& NOTE_WRITE) == NOTE_WRITE && (!already || (info.dirFlags &&& NOTE_WRITE) != NOTE_WRITE)
    if !(← updateDirFlags name flags) then pure (.ok []) else
    if watchDir then
      let d := if info.linkName != [] then info.linkName else name
      match ← wdf d with
      | some e => pure (.error e)
      | none => pure (.ok name)
    else pure (.ok name)
  else pure (.ok name)

theorem finishAdd_eq (wdf : Path → M (Option Err)) (name : Path) (info : KW) (already : Bool) (flags : BitVec 32) :
    finishAdd wdf name info already flags = (do
      match ← registerAdd info.wd flags with
      | .error e => do closeFd info.wd; pure (.error (.fs e))
      | .ok () =>
        (if !already then watchesAdd name info.linkName info.wd info.isDir else pure ()) >>= fun _ =>
          dirTail wdf name info already flags : M (Except Err Path)) := by
  cases already <;> rfl

def rmChildren (fuel : Nat) (name : Path) (unwatch isDir : Bool) : M (Option Err) :=
  if unwatch && isDir then do
    let ps ← watchesInDir name
    let _ ← forUntil (fun (p : Path) => do
      let s ← get
      if s.closed then pure (none : Option Unit) else do
        let _ ← rm fuel p true
        pure none) ps
    pure none
  else pure none

def rmStep (name : Path) (k : Bool → M (Option Err)) : M (Option Err) := do
  let (info, ok) ← byPath name
  if !ok then pure (some .nonExistent) else
  match ← registerDelete info.wd with
  | .error e => rmErr e info name
  | .ok () => do
    closeFd info.wd
    let isDir ← watchesRemove info.wd name
    k isDir

theorem rm_succ (fuel : Nat) (name : Path) (unwatch : Bool) :
    rm (fuel + 1) name unwatch = rmStep (clean name) (rmChildren fuel (clean name) unwatch) := rfl

theorem rmStep_notFound (name : Path) (k : Bool → M (Option Err)) (w : W) (h : found name w.s = none) :
    rmStep name k w = (some .nonExistent, w) := by
  simp only [rmStep, bind_apply, byPath, get, pure_apply, show alLookup _ w.s.wd = none from h]
  rfl

def closeLoop (ps : List Path) : M (Option Unit) :=
  forUntil (fun (p : Path) => do let _ ← rm fuel p false; pure (none : Option Unit)) ps

theorem close_eq (w : W) (hc : w.s.closed = false) :
    close w = ((), (closeLoop (w.s.path.map (·.1)) { w with s := { w.s with closed := true } }).2) := by
  unfold close
  simp only [bind_apply]
  rw [if_neg (by simp [get, hc])]
  rfl

theorem remove_eq (name : Path) (unwatch : Bool) (w : W) (hc : w.s.closed = false) :
    remove name unwatch w = rm fuel name unwatch w := by
  unfold remove
  simp only [bind_apply]
  rw [if_neg (by simp [get, hc])]
  rfl

end KqF
