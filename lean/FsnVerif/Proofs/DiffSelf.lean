import FsnVerif.Proofs.DiffGroups
/-!
# `Diff(s, s)` is empty: the matcher finds the whole text when both texts are the same

`findLongestMatch a a 0 n 0 n` walks the diagonal: after row `i` the cell `(i, i)` holds a run of
`i + 1` lines and the best block is at least that long; a block of equal lines inside the window
(`flm_ok`) that is `n` long is the whole window.
-/
namespace Diff

/-- `flmFold_fst` and `flmFold_size` read through `j2get`, column by column, for any two texts; `flmRows_self` uses
the last part, on the diagonal -/
theorem flmFold_self {a b : List Line} {i blo bhi : Nat} {j2len : List (Nat × Nat)} (js : List Nat) :
    ∀ acc : List (Nat × Nat) × Match,
    acc.2.size ≤ (js.foldl (flmStep a b i blo bhi j2len) acc).2.size ∧
    (∀ x, x ∉ js → j2get (js.foldl (flmStep a b i blo bhi j2len) acc).1 x = j2get acc.1 x) ∧
    (js.Nodup → ∀ x, x ∈ js → cellOn a b i blo bhi x = true → (∀ p, p ∈ acc.1 → p.1 ≠ x) →
      j2get (js.foldl (flmStep a b i blo bhi j2len) acc).1 x = kOf j2len x ∧
      kOf j2len x ≤ (js.foldl (flmStep a b i blo bhi j2len) acc).2.size) := by
  intro acc
  rw [flmFold_fst]
  refine ⟨(flmFold_size js acc).1, fun x hx => j2get_append_right _ fun p hp e => ?_,
    fun _ x hx hc habs => ⟨?_, (flmFold_size js acc).2 x hx hc⟩⟩
  · obtain ⟨y, hy, rfl⟩ := List.mem_map.mp hp
    exact hx (e ▸ (List.mem_filter.mp hy).1)
  · rw [j2get_append_left habs, j2get_map, if_pos (List.mem_filter.mpr ⟨hx, hc⟩)]

theorem extendBack_size {a b : List Line} {alo blo : Nat} (fuel : Nat) (m : Match) :
    m.size ≤ (extendBack a b alo blo fuel m).size := by
  fun_induction extendBack a b alo blo fuel m with
  | case1 => exact Nat.le_refl _
  | case2 _ _ _ ih => exact Nat.le_trans (Nat.le_succ _) ih
  | case3 => exact Nat.le_refl _

theorem extendFwd_size {a b : List Line} {ahi bhi : Nat} (fuel : Nat) (m : Match) :
    m.size ≤ (extendFwd a b ahi bhi fuel m).size := by
  fun_induction extendFwd a b ahi bhi fuel m with
  | case1 => exact Nat.le_refl _
  | case2 _ _ _ ih => exact Nat.le_trans (Nat.le_succ _) ih
  | case3 => exact Nat.le_refl _

theorem flmRows_self (a : List Line) (m : Nat) : ∀ (i0 : Nat) (j2len : List (Nat × Nat)) (best : Match),
    i0 + m ≤ a.length → (i0 = 0 ∨ i0 ≤ j2get j2len (i0 - 1)) → i0 ≤ best.size →
    i0 + m ≤ (flmRows a a 0 a.length ((List.range m).map (· + i0)) j2len best).size := by
  induction m with
  | zero => exact fun _ _ _ _ _ hb => hb
  | succ m ih =>
    intro i0 j2len best hlen hprev hb
    rw [range_succ_map_add, flmRows, flmRow]
    have hi0 : i0 < a.length := Nat.lt_of_lt_of_le (Nat.lt_add_of_pos_right (Nat.succ_pos m)) hlen
    have hon : cellOn a a i0 0 a.length i0 = true := by simp [cellOn, hi0]
    obtain ⟨g1, g2⟩ := (flmFold_self (j2len := j2len) (List.range a.length) ([], best)).2.2 List.nodup_range i0
      (List.mem_range.mpr hi0) hon (fun _ hp => nomatch hp)
    -- the diagonal cell of row `i0` holds one more than that of the row before
    have hk : i0 + 1 ≤ kOf j2len i0 := by
      refine Nat.succ_le_succ ?_
      split
      · exact Nat.le_of_eq ‹_›
      · exact hprev.resolve_left ‹_›
    exact Nat.add_right_comm i0 1 m ▸
      ih (i0 + 1) _ _ (Nat.add_right_comm i0 m 1 ▸ hlen) (.inr (g1 ▸ hk)) (Nat.le_trans hk g2)

theorem flm_self (a : List Line) : findLongestMatch a a 0 a.length 0 a.length = ⟨0, 0, a.length⟩ := by
  have hok := flm_ok a a 0 a.length 0 a.length (Nat.zero_le _) (Nat.zero_le _)
  have hsz : a.length ≤ (findLongestMatch a a 0 a.length 0 a.length).size := by
    unfold findLongestMatch
    refine Nat.le_trans ?_ (extendFwd_size _ _)
    refine Nat.le_trans ?_ (extendBack_size _ _)
    simpa using flmRows_self a a.length 0 [] ⟨0, 0, 0⟩ (Nat.le_of_eq (Nat.zero_add _)) (.inl rfl) (Nat.zero_le _)
  -- a block inside the window that is as long as the window is the window
  obtain ⟨_, h2, _, h4, _⟩ := hok
  generalize findLongestMatch a a 0 a.length 0 a.length = m at *
  obtain ⟨ma, mb, ms⟩ := m
  simp only at h2 h4 hsz
  congr 1 <;> omega

theorem matchingBlocks_self (a : List Line) (hne : a ≠ []) :
    matchingBlocks a a = [⟨0, 0, a.length⟩, ⟨a.length, a.length, 0⟩] := by
  -- by `flm_self` the first call finds the whole text, nothing is left on either side of it, nothing to collapse
  simp [matchingBlocks, matchBlocks, flm_self, collapse, collapseStep, List.length_pos_iff.mpr hne]

theorem getOpCodes_self (a : List Line) (hne : a ≠ []) : getOpCodes a a = [⟨'e', 0, a.length, 0, a.length⟩] := by
  simp [getOpCodes, matchingBlocks_self a hne, opCodesOf, opStep, opGap, opEq, List.length_pos_iff.mpr hne]

theorem unifiedDiff_self (a : List Line) (hne : a ≠ []) : unifiedDiff a a = [] := by
  unfold unifiedDiff
  rw [getOpCodes_self a hne, groupOpCodes_single_equal 3 rfl]
  rfl

theorem diff_self (s : List Char) : diff s s = [] := by
  unfold diff
  rw [unifiedDiff_self _ (splitLines_ne_nil s)]
  rfl

end Diff
