import FsnVerif.Proofs.KqFullKeeps
import FsnVerif.Proofs.PathLemmas
/-!
# The bookkeeping invariant of the full kqueue model and its preservation by every function

`InvP pend s`: the descriptors obtained from `unix.Open` and not closed are exactly the keys of the
`wd` table (plus `pend`, the one descriptor `addWatch` holds between `Open` and `watches.add`, which is
not a key yet: `pend_fresh`); every entry carries its own key, is listed under its own (clean) name in the
path table, has its descriptor in the `byDir` set of its parent directory (`bydir`: that is what makes
`watchesInDir` complete), and has a knote; knotes exist only on open descriptors.
-/
namespace KqF
open Fsn

structure InvP (pend : Option Nat) (s : KS) : Prop where
  open_iff : ∀ fd, fd ∈ s.openFds ↔ (alHas fd s.wd = true ∨ pend = some fd)
  pend_fresh : ∀ fd, pend = some fd → alHas fd s.wd = false
  key_wd : ∀ k w, alLookup k s.wd = some w → w.wd = k
  listed : ∀ k w, alLookup k s.wd = some w → alLookup w.name s.path = some k
  knote_open : ∀ fd, alHas fd s.knotes = true → fd ∈ s.openFds
  has_knote : ∀ k, alHas k s.wd = true → alHas k s.knotes = true
  keys_clean : ∀ k w, alLookup k s.wd = some w → clean w.name = w.name
  bydir : ∀ k w, alLookup k s.wd = some w → k ∈ (alLookup (dir w.name) s.byDir).getD []

abbrev Inv (s : KS) : Prop := InvP none s

theorem inv_init : Inv {} := by constructor <;> simp [alHas, alLookup]

/-- the invariant does not look at `seen`, `byUser` and `closed`: a `modify` that changes nothing else keeps it -/
theorem tr_modifyRest (pend : Option Nat) (f : KS → KS)
    (hf : ∀ s, f s = { s with seen := (f s).seen, byUser := (f s).byUser, closed := (f s).closed }) :
    Tr (InvP pend) (modify f) (fun _ => InvP pend) := fun w h => by
  show InvP pend (f w.s)
  rw [hf]
  exact { h with }

theorem alHas_false_iff {κ ν : Type} [DecidableEq κ] (k : κ) (l : List (κ × ν)) : alHas k l = false ↔ alLookup k l = none := by
  unfold alHas; cases alLookup k l <;> simp

theorem InvP.named_found {pend : Option Nat} {s : KS} (h : InvP pend s) {k : Nat} {w : KW} (hw : alLookup k s.wd = some w)
    {name : Path} (he : w.name = name) : found name s = some w := by
  rw [found, ← he, h.listed k w hw]; exact hw

theorem InvP.no_entry_named {pend : Option Nat} {s : KS} (h : InvP pend s) {name : Path} (hn : found name s = none)
    (k : Nat) (w : KW) (hw : alLookup k s.wd = some w) : w.name ≠ name := fun he => by
  rw [h.named_found hw he] at hn; cases hn

theorem InvP.found_self {pend : Option Nat} {s : KS} (h : InvP pend s) {name : Path} {info : KW} (hi : found name s = some info) :
    alLookup info.wd s.wd = some info := by rw [h.key_wd _ _ hi]; exact hi

/-- what the invariant says of the entry under key `k` -/
structure EntOk (path : List (Path × Nat)) (byDir : List (Path × List Nat)) (k wd : Nat) (name : Path) : Prop where
  key_wd : wd = k
  listed : alLookup name path = some k
  keys_clean : clean name = name
  bydir : k ∈ (alLookup (dir name) byDir).getD []

theorem InvP.ent {pend : Option Nat} {s : KS} (h : InvP pend s) {k : Nat} {w : KW} (hk : alLookup k s.wd = some w) :
    EntOk s.path s.byDir k w.wd w.name :=
  ⟨h.key_wd k w hk, h.listed k w hk, h.keys_clean k w hk, h.bydir k w hk⟩

theorem InvP.of_ent {s : KS} (h1 : ∀ fd, fd ∈ s.openFds ↔ alHas fd s.wd = true)
    (h3 : ∀ fd, alHas fd s.knotes = true → fd ∈ s.openFds) (h4 : ∀ k, alHas k s.wd = true → alHas k s.knotes = true)
    (he : ∀ k w, alLookup k s.wd = some w → EntOk s.path s.byDir k w.wd w.name) : Inv s :=
  ⟨fun fd => by simp [h1], fun _ h => (by cases h), fun k w hk => (he k w hk).key_wd, fun k w hk => (he k w hk).listed, h3, h4,
    fun k w hk => (he k w hk).keys_clean, fun k w hk => (he k w hk).bydir⟩

/-- `watches.add` puts `fd` into the set of its directory and takes nothing out of any set -/
theorem mem_byDir_add {byDir : List (Path × List Nat)} {d d' : Path} {fd k : Nat} (cur : List Nat)
    (hcur : cur = (alLookup d byDir).getD []) :
    k ∈ (alLookup d' (alInsert d (if cur.contains fd then cur else cur ++ [fd]) byDir)).getD [] ↔
      k ∈ (alLookup d' byDir).getD [] ∨ (d' = d ∧ k = fd) := by
  by_cases hd : d' = d
  · subst hd hcur; rw [alLookup_insert_same, Option.getD_some, mem_addNew]; simp
  · simp [alLookup_insert_other _ _ _ _ hd, hd]

/-- `watches.remove` takes `fd` out of the set of its directory and nothing else out of any set -/
theorem mem_byDir_remove {byDir : List (Path × List Nat)} {d d' : Path} {fd k : Nat} (hk : k ≠ fd)
    (h : k ∈ (alLookup d' byDir).getD []) :
    k ∈ (alLookup d' (match alLookup d byDir with
      | none => byDir
      | some cur => if (cur.filter (· != fd)).isEmpty then alErase d byDir else alInsert d (cur.filter (· != fd)) byDir)).getD [] := by
  cases hcur : alLookup d byDir with
  | none => exact h
  | some cur =>
    dsimp only
    by_cases hd : d' = d
    · subst hd
      have hm : k ∈ cur.filter (· != fd) := List.mem_filter.mpr ⟨by simpa [hcur] using h, by simpa using hk⟩
      rw [if_neg (fun he => by rw [List.isEmpty_iff.mp he] at hm; cases hm), alLookup_insert_same]
      exact hm
    · split
      · rwa [alLookup_erase_other _ _ _ hd]
      · rwa [alLookup_insert_other _ _ _ _ hd]

theorem tr_markSeen (pend : Option Nat) (F : KS → Prop) (hF : ∀ s s' : KS, s'.wd = s.wd → s'.path = s.path → F s → F s')
    (p : Path) (b : Bool) :
    Tr (fun s => InvP pend s ∧ F s) (markSeen p b) (fun _ s => InvP pend s ∧ F s) := by
  intro w ⟨h, hf⟩
  exact ⟨tr_modifyRest pend _ (fun _ => rfl) w h, hF w.s _ rfl rfl hf⟩

theorem tr_markSeen' (p : Path) (b : Bool) : Tr Inv (markSeen p b) (fun _ => Inv) := tr_modifyRest none _ fun _ => rfl

theorem tr_addUserWatch (p : Path) : Tr Inv (addUserWatch p) (fun _ => Inv) := tr_modifyRest none _ fun _ => rfl

theorem tr_addLink (name : Path) (fd : Nat) :
    Tr (fun s => Inv s ∧ found name s = none) (addLink name fd) (fun _ => Inv) := by
  intro w ⟨h, hn⟩
  show InvP none { w.s with path := alInsert name fd w.s.path, seen := setInsert name w.s.seen }
  refine { h with listed := fun k kw hk => ?_ }
  show alLookup kw.name (alInsert name fd w.s.path) = some k
  rw [alLookup_insert_other _ _ _ _ (h.no_entry_named hn k kw hk)]
  exact h.listed k kw hk

theorem InvP.opened {s : KS} (h : Inv s) {fd : Nat} (hfd : fd ∉ s.openFds) : InvP (some fd) { s with openFds := fd :: s.openFds } :=
  { h with
    open_iff := fun x => by
      show x ∈ fd :: s.openFds ↔ _
      rw [List.mem_cons, h.open_iff x, or_comm]
      simp only [reduceCtorEq, or_false, Option.some.injEq, eq_comm]
    pend_fresh := fun x hx => by
      cases hx
      exact Bool.eq_false_iff.mpr fun hh => hfd ((h.open_iff fd).mpr (.inl hh))
    knote_open := fun x hx => List.mem_cons_of_mem _ (h.knote_open x hx) }

theorem registerAdd_open (fd : Nat) (fl : BitVec 32) (w : W) (ho : fd ∈ w.s.openFds) :
    registerAdd fd fl w = (.ok (), { w with s := { w.s with knotes := alInsert fd fl w.s.knotes } }) := by
  have hc : w.s.openFds.contains fd = true := by simpa using ho
  simp only [registerAdd, get, modify, bind_apply, pure_apply, hc, if_true]

theorem InvP.registered {pend : Option Nat} {s : KS} (h : InvP pend s) {fd : Nat} (ho : fd ∈ s.openFds) (fl : BitVec 32) :
    InvP pend { s with knotes := alInsert fd fl s.knotes } :=
  { h with
    knote_open := fun x hx => (alHas_insert_iff.mp hx).elim (fun e => e ▸ ho) (h.knote_open x)
    has_knote := fun k hk => alHas_insert_iff.mpr (.inr (h.has_knote k hk)) }

theorem tr_watchesAdd (name link : Path) (fd : Nat) (isDir : Bool) :
    Tr (fun s => InvP (some fd) s ∧ found name s = none ∧ clean name = name ∧ alHas fd s.knotes = true)
      (watchesAdd name link fd isDir)
      (fun _ s => Inv s ∧ ∃ i, found name s = some i) := by
  intro w ⟨h, hn, hc, hk⟩
  refine ⟨.of_ent (fun x => ?_) h.knote_open (fun k hk' => ?_) (fun k kw hkw => ?_), ⟨fd, name, link, isDir, 0#32⟩, ?_⟩
  · show x ∈ w.s.openFds ↔ alHas x (alInsert fd _ w.s.wd) = true
    rw [h.open_iff x, alHas_insert_iff, or_comm]
    simp only [Option.some.injEq, eq_comm]
  · exact (alHas_insert_iff.mp hk').elim (fun e => e ▸ hk) (h.has_knote k)
  · show EntOk (alInsert name fd w.s.path) (alInsert (dir name) _ w.s.byDir) k kw.wd kw.name
    rcases alLookup_insert_eq_some.mp hkw with ⟨rfl, rfl⟩ | ⟨_, h2⟩
    · exact ⟨rfl, alLookup_insert_same _ _ _, hc, (mem_byDir_add _ rfl).mpr (.inr ⟨rfl, rfl⟩)⟩
    · have e := h.ent h2
      refine ⟨e.key_wd, ?_, e.keys_clean, (mem_byDir_add _ rfl).mpr (.inl e.bydir)⟩
      rw [alLookup_insert_other _ _ _ _ (h.no_entry_named hn k kw h2)]; exact e.listed
  · show alLookup ((alLookup name (alInsert name fd w.s.path)).getD 0) (alInsert fd _ w.s.wd) = _
    rw [alLookup_insert_same, Option.getD_some, alLookup_insert_same]

theorem tr_updateDirFlags (name : Path) (flags : BitVec 32) :
    Tr (fun s => Inv s ∧ ∃ i, found name s = some i) (updateDirFlags name flags) (fun _ => Inv) := by
  intro w ⟨h, info, hi⟩
  simp only [updateDirFlags, get, bind_apply]
  cases hl : alLookup name w.s.path with
  | none => exact h
  | some fd =>
    simp only [found, hl, Option.getD_some] at hi
    have hhas := (alHas_iff _ _).mpr ⟨_, hi⟩
    simp only [modify, bind_apply, pure_apply, hi, Option.getD_some]
    show InvP none { w.s with wd := alInsert fd { info with dirFlags := flags } w.s.wd }
    -- the same key set, and the entry under `fd` keeps its key and name
    refine .of_ent (fun x => ?_) h.knote_open (fun k hk => ?_) (fun k kw hkw => ?_)
    · show x ∈ w.s.openFds ↔ alHas x (alInsert fd _ w.s.wd) = true
      rw [h.open_iff x, alHas_insert_iff]
      by_cases hx : x = fd <;> simp [hx, hhas]
    · exact (alHas_insert_iff.mp hk).elim (fun e => e ▸ h.has_knote fd hhas) (h.has_knote k)
    · rcases alLookup_insert_eq_some.mp hkw with ⟨rfl, rfl⟩ | ⟨_, h2⟩
      · exact h.ent (w := info) hi
      · exact h.ent h2

/-- what holds from the failed `byPath` to `unix.Open`: nothing is watched under the (clean) name at hand -/
def Fresh (name : Path) (s : KS) : Prop := Inv s ∧ found name s = none ∧ clean name = name

/-- what `finishAdd` needs to know about its `(name, info, already)` -/
def FinPre (name : Path) (info : KW) : Bool → KS → Prop
  | true, s => Inv s ∧ found name s = some info
  | false, s => InvP (some info.wd) s ∧ found name s = none ∧ clean name = name

/-- … and about what the first half hands on -/
def PreOk : Pre → KS → Prop
  | .error _, s => Inv s
  | .ok (name, info, already), s => FinPre name info already s

theorem tr_followLink (name : Path) (info0 : KW) :
    Tr (Fresh name) (followLink name info0)
      (fun r s => match r with
        | .error _ => Inv s
        | .ok (link, _, _) => Fresh link s) := by
  unfold followLink
  refine Tr.bind ((asks_readlink name).toPure.tr _) fun r => ?_
  cases r with
  | error e => exact Tr.pure _ fun _ h => h.1
  | ok link0 =>
    dsimp only
    have hcl := clean_idem (if isAbs link0 = true then link0 else join (dir name) link0)
    generalize clean (if isAbs link0 = true then link0 else join (dir name) link0) = link at hcl ⊢
    refine Tr.bind (tr_byPath _ _) fun (_, alreadyL) => ?_
    -- with the flag a constant the `if` after it is its branch
    cases alreadyL with
    | true => exact Tr.bind ((tr_addLink name 0).pre fun _ h => ⟨h.1.1, h.1.2.1⟩) fun _ => Tr.pure _ fun _ h => h
    | false =>
      refine Tr.bind ((asks_lstat _).toPure.tr _) fun r => ?_
      cases r with
      | error e => exact Tr.pure _ fun _ h => h.1.1
      | ok fi2 => exact Tr.pure _ fun _ h => ⟨h.1.1, h.2.2 rfl, hcl⟩

theorem tr_openTail (name : Path) (info : KW) (fi : Kind) : Tr (Fresh name) (openTail name info fi) PreOk := by
  intro w ⟨h, hn, hc⟩
  rcases askOpen_cases name w with ⟨_, _, _, e⟩ | ⟨fd, _, hfd, e⟩ <;> simp only [openTail, bind_apply, e, pure_apply]
  · exact h
  · exact ⟨h.opened hfd, hn, hc⟩

theorem tr_openNew (name : Path) (info0 : KW) (listDir : Bool) : Tr (Fresh name) (openNew name info0 listDir) PreOk := by
  rw [openNew_eq]
  refine Tr.bind ((asks_lstat name).toPure.tr _) fun r => ?_
  cases r with
  | error e => exact Tr.pure _ fun _ h => h.1
  | ok fi =>
    refine .ite (Tr.pure _ fun _ h => h.1) (.ite ?_ (tr_openTail name info0 fi))
    refine Tr.bind (tr_followLink name info0) fun r2 => ?_
    cases r2 with
    | error r => exact Tr.pure _ fun _ h => h
    | ok v => exact tr_openTail _ _ _

theorem tr_dirTail (wdf : Path → M (Option Err)) (hwdf : ∀ d, Tr Inv (wdf d) (fun _ => Inv))
    (name : Path) (info : KW) (already : Bool) (flags : BitVec 32) :
    Tr (fun s => Inv s ∧ ∃ i, found name s = some i) (dirTail wdf name info already flags) (fun _ => Inv) := by
  unfold dirTail
  refine .ite (Tr.bind (tr_updateDirFlags name flags) fun b => ?_) (Tr.pure _ fun _ h => h.1)
  refine .ite (Tr.pure _ fun _ h => h) (.ite (Tr.bind (hwdf _) fun r => ?_) (Tr.pure _ fun _ h => h))
  cases r <;> exact Tr.pure _ fun _ h => h

theorem tr_finishAdd (wdf : Path → M (Option Err)) (hwdf : ∀ d, Tr Inv (wdf d) (fun _ => Inv))
    (name : Path) (info : KW) (already : Bool) (flags : BitVec 32) :
    Tr (FinPre name info already) (finishAdd wdf name info already flags) (fun _ => Inv) := by
  intro w hw
  rw [finishAdd_eq]
  cases already with
  | true =>
    obtain ⟨hi, hl⟩ := hw
    have ho : info.wd ∈ w.s.openFds := (hi.open_iff _).mpr (.inl ((alHas_iff _ _).mpr ⟨_, hi.found_self hl⟩))
    simp only [bind_apply, registerAdd_open _ _ w ho, Bool.not_true, Bool.false_eq_true, if_false, pure_apply]
    exact tr_dirTail wdf hwdf name info true flags _ ⟨hi.registered ho flags, _, hl⟩
  | false =>
    obtain ⟨hi, hn, hc⟩ := hw
    have ho : info.wd ∈ w.s.openFds := (hi.open_iff _).mpr (.inr rfl)
    simp only [bind_apply, registerAdd_open _ _ w ho, Bool.not_false, if_true]
    exact tr_dirTail wdf hwdf name info false flags _ <| tr_watchesAdd name info.linkName info.wd info.isDir
      { w with s := { w.s with knotes := alInsert info.wd flags w.s.knotes } } ⟨hi.registered ho flags, hn, hc, alHas_insert_iff.mpr (.inl rfl)⟩

theorem addWatch_ok : ∀ fuel n f l, Tr Inv (addWatch fuel n f l) (fun _ => Inv)
  | 0, _, _, _ => Tr.bind ((asks_setBad _).toPure.tr _) fun _ => Tr.pure _ fun _ h => h
  | fuel + 1, n, f, l => by
    unfold addWatch
    have hw := keeps_watchDirectoryFiles (I := fun w => Inv w.s) (fun _ _ _ h => h) (tr_markSeen' · true) (addWatch_ok fuel)
    refine Tr.bind (pure_get.tr Inv) fun s0 => .ite (Tr.pure _ fun _ h => h) ?_
    refine Tr.bind (tr_byPath _ _) fun (info0, already0) => ?_
    -- with the flag a constant the `if` after it is its branch
    cases already0 with
    | true => exact (tr_finishAdd _ hw (clean n) info0 true f).pre fun _ h => ⟨h.1, h.2.1 rfl⟩
    | false =>
      refine Tr.bind ((tr_openNew (clean n) info0 l).pre fun _ h => ⟨h.1, h.2.2 rfl, clean_idem n⟩) fun pre => ?_
      cases pre with
      | error r => exact Tr.pure _ fun _ h => h
      | ok v => exact tr_finishAdd _ hw _ _ _ f

def AllEnt (N : Nat → KW → Prop) (s : KS) : Prop := ∀ k w, alLookup k s.wd = some w → N k w

theorem AllEnt.imp {N N' : Nat → KW → Prop} {s : KS} (h : AllEnt N s) (hi : ∀ k e, alLookup k s.wd = some e → N k e → N' k e) :
    AllEnt N' s := fun k e hk => hi k e hk (h k e hk)

/-- the world after `register(EV_DELETE)`, `unix.Close` and `watches.remove` for the entry `info` listed under `name` -/
def afterCore (w : W) (info : KW) (name : Path) : W :=
  (watchesRemove info.wd name (closeFd info.wd { w with s := { w.s with knotes := alErase info.wd w.s.knotes } }).2).2

/-- under the invariant the entry `rm` finds has a knote, so `register(EV_DELETE)` succeeds: one step of `rm`
is the children loop run after `afterCore` -/
theorem rmStep_found (name : Path) (k : Bool → M (Option Err)) (w : W) (h : Inv w.s) (info : KW) (hi : found name w.s = some info) :
    rmStep name k w = k info.isDir (afterCore w info name) := by
  have hself := h.found_self hi
  have hhas : alHas info.wd w.s.knotes = true := h.has_knote _ ((alHas_iff _ _).mpr ⟨_, hself⟩)
  simp only [rmStep, bind_apply, byPath, get, pure_apply, show alLookup _ w.s.wd = some info from hi, Bool.not_true,
    Bool.false_eq_true, if_false]
  simp only [bind_apply, registerDelete, get, hhas, if_true, modify, pure_apply, closeFd, watchesRemove, afterCore, hself]

theorem afterCore_inv {w : W} (h : Inv w.s) {name : Path} {info : KW} (hi : found name w.s = some info)
    {N : Nat → KW → Prop} (hN : AllEnt N w.s) :
    Inv (afterCore w info name).s ∧ AllEnt (fun k e => N k e ∧ k ≠ info.wd ∧ e.name ≠ name) (afterCore w info name).s := by
  -- what is left are the old entries under other keys; the entry found was the only one of its name
  have old : ∀ k e, alLookup k (afterCore w info name).s.wd = some e → k ≠ info.wd ∧ alLookup k w.s.wd = some e ∧ e.name ≠ name :=
    fun k e hk =>
      have ⟨hne, hk'⟩ := alLookup_erase_eq_some.mp (show alLookup k (alErase info.wd w.s.wd) = some e from hk)
      ⟨hne, hk', fun he => by rw [h.named_found hk' he] at hi; cases hi; exact hne (h.key_wd _ _ hk').symm⟩
  refine ⟨.of_ent (fun x => ?_) (fun x hx => ?_) (fun k hk => ?_) (fun k e hk => ?_), fun k e hk => ?_⟩
  · show x ∈ w.s.openFds.filter (· != info.wd) ↔ alHas x (alErase info.wd w.s.wd) = true
    rw [alHas_erase, List.mem_filter, h.open_iff x]
    by_cases hx : x = info.wd <;> simp [hx]
  · have hx : alHas x (alErase info.wd (alErase info.wd w.s.knotes)) = true := hx
    rw [alHas_erase_iff, alHas_erase_iff] at hx
    exact List.mem_filter.mpr ⟨h.knote_open x hx.2.2, by simpa using hx.1⟩
  · have hk : alHas k (alErase info.wd w.s.wd) = true := hk
    rw [alHas_erase_iff] at hk
    show alHas k (alErase info.wd (alErase info.wd w.s.knotes)) = true
    rw [alHas_erase_iff, alHas_erase_iff]
    exact ⟨hk.1, hk.1, h.has_knote k hk.2⟩
  · obtain ⟨hne, hk', hnn⟩ := old k e hk
    have e' := h.ent hk'
    refine ⟨e'.key_wd, ?_, e'.keys_clean, mem_byDir_remove hne e'.bydir⟩
    show alLookup e.name (alErase name w.s.path) = some k
    rw [alLookup_erase_other _ _ _ hnn]; exact e'.listed
  · obtain ⟨hne, hk', hnn⟩ := old k e hk
    exact ⟨hN k e hk', hne, hnn⟩

/-- `rm` never adds an entry: whatever held of every entry still does -/
theorem rm_ent_ok (N : Nat → KW → Prop) : ∀ fuel name unwatch, Keeps (fun w => Inv w.s ∧ AllEnt N w.s) (rm fuel name unwatch) := by
  refine keeps_rm (fun _ _ _ h => h) fun name k hk w hw => ?_
  cases hl : found name w.s with
  | none => rw [rmStep_notFound name k w hl]; exact hw
  | some info =>
    rw [rmStep_found name k w hw.1 info hl]
    have := afterCore_inv hw.1 hl hw.2
    exact hk _ _ ⟨this.1, this.2.imp fun _ _ _ h => h.1⟩

/-- **what `rm` does**: the invariant stays, the entry `byPath` finds under the cleaned name (if any) is gone,
no entry carries that name any more, and no entry appeared. `rm 0` only records that it ran out of fuel, hence
`fuel + 1`; `Remove` and `Close` call `rm KqF.fuel`, which is `rm (KqF.fuel - 1 + 1)` by evaluation (`KqF.fuel = 6`),
so their theorems take this one at `KqF.fuel - 1` -/
theorem rm_spec (fuel : Nat) (name : Path) (unwatch : Bool) (N : Nat → KW → Prop) (w : W) (h : Inv w.s) (hN : AllEnt N w.s) :
    Inv (rm (fuel + 1) name unwatch w).2.s ∧
    AllEnt (fun k e => N k e ∧ k ≠ (alLookup (clean name) w.s.path).getD 0 ∧ e.name ≠ clean name)
      (rm (fuel + 1) name unwatch w).2.s := by
  rw [rm_succ]
  cases hl : found (clean name) w.s with
  | none =>
    rw [rmStep_notFound _ _ w hl]
    exact ⟨h, hN.imp fun k e hk hn => ⟨hn, fun he => (by rw [he, show alLookup _ w.s.wd = none from hl] at hk; cases hk), h.no_entry_named hl k e hk⟩⟩
  | some info =>
    rw [rmStep_found _ _ w h info hl]
    have := afterCore_inv h hl hN
    rw [h.key_wd _ _ hl] at this
    exact keeps_rmChildren (rm_ent_ok _ fuel) _ _ _ _ this

/-- one `rm` of a loop over paths (`Close`, the children of a removed directory): no entry named one of the paths
worked off before, none named this one afterwards — an entry's name is clean, so it is `p` only if it is `clean p` -/
theorem rm_next (fuel : Nat) (p : Path) (unwatch : Bool) (N : Nat → KW → Prop) (done : List Path) (w : W) (h : Inv w.s)
    (hN : AllEnt (fun k e => N k e ∧ e.name ∉ done) w.s) :
    Inv (rm (fuel + 1) p unwatch w).2.s ∧ AllEnt (fun k e => N k e ∧ e.name ∉ done ++ [p]) (rm (fuel + 1) p unwatch w).2.s := by
  have := rm_spec fuel p unwatch _ w h hN
  exact ⟨this.1, this.2.imp fun k e hk ⟨⟨a, b⟩, _, c⟩ =>
    ⟨a, by simpa [b] using fun he => c ((this.1.keys_clean k e hk).symm.trans (congrArg clean he))⟩⟩

theorem inv_stable : Stable (fun w => Inv w.s) where
  tape := fun _ _ _ h => h
  sendEvent := fun e => (pure_sendEvent e).tr Inv
  sendError := fun e => (pure_sendError e).tr Inv
  markSeen := tr_markSeen'
  addWatch := addWatch_ok fuel
  rm := fun n u w h => (rm_ent_ok (fun _ _ => True) fuel n u w ⟨h, fun _ _ _ => trivial⟩).1

/-- **Close releases everything**: whatever the history and the environment's answers were, after
`Close` no descriptor is open, no table entry and no knote is left -/
theorem close_releases (w : W) (h : Inv w.s) (hc : w.s.closed = false) :
    (close w).2.s.openFds = [] ∧ (close w).2.s.wd = [] ∧ (close w).2.s.knotes = [] := by
  -- every entry is listed under its name; after the paths `done`, no entry is named one of them
  obtain ⟨hi, hn⟩ : Inv (close w).2.s ∧ AllEnt (fun _ e => e.name ∈ w.s.path.map (·.1) ∧ e.name ∉ w.s.path.map (·.1)) (close w).2.s := by
    rw [close_eq w hc]
    exact Hoare.forUntil (fun done w' => Inv w'.s ∧ AllEnt (fun _ e => e.name ∈ w.s.path.map (·.1) ∧ e.name ∉ done) w'.s) _
      (R := fun _ w' => Inv w'.s ∧ AllEnt _ w'.s) _ (fun done p _ _ w' hw' => rm_next (fuel - 1) p false _ done w' hw'.1 hw'.2) (fun _ h => h) _
      ⟨{ h with }, fun k e hk => ⟨mem_keys_of_lookup (h.listed k e hk), by simp⟩⟩
  have hwd : (close w).2.s.wd = [] := al_empty_of_no_lookup _ fun k v hk => (hn k v hk).2 (hn k v hk).1
  have hop : (close w).2.s.openFds = [] := List.eq_nil_iff_forall_not_mem.mpr fun fd hfd => by
    simpa [hwd, alHas, alLookup] using (hi.open_iff fd).mp hfd
  exact ⟨hop, hwd, al_empty_of_no_lookup _ fun k v hk => by
    simpa [hop] using hi.knote_open k ((alHas_iff _ _).mpr ⟨v, hk⟩)⟩

end KqF
