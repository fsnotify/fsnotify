import FsnVerif.Generated.Tables
import FsnVerif.Model.Bits
import FsnVerif.Proofs.BitsLemmas
/-!
# Tie T (native mask -> Op, inotify): the part of the table bridge that the event-side property C02
(and C09 through it) rests on, kept apart from the request side (`inotifyRequest`, C15 only). The `Op` constants and
`Op.Has` are tied here too: `BridgeTables` and `BridgeString` (C15, C16) read the regenerated tables through them.
-/
namespace Bridge
open Fsn

theorem opConsts_eq :
    Gen.allOpConsts = [("Chmod", Chmod), ("Create", Create), ("Remove", Remove), ("Rename", Rename),
      ("Write", Write), ("xUnportableCloseRead", CloseRead), ("xUnportableCloseWrite", CloseWrite),
      ("xUnportableOpen", Open), ("xUnportableRead", Read)] := rfl

/-- `Op.Has` as the source has it is the model's `opHas`; `h&o != 0` for `o&h != 0` is a harmless rewrite of the source -/
theorem opHas_eq (o h : BitVec 32) : Gen.opHas o h = Fsn.opHas o h := by
  first
  | rfl
  | exact opHas_comm h o
theorem opHas_residue : Gen.opHas.residue = [] := rfl

theorem inotifyNewEventOp_eq (m : BitVec 32) : Gen.inotifyNewEventOp m = Fsn.inotifyNewEventOp m := by
  simp only [Gen.inotifyNewEventOp, Fsn.inotifyNewEventOp, applyRules, inotifyRules, List.foldl, List.any, test,
    Bool.or_false]
  rfl

end Bridge

namespace EventOp
open Fsn

theorem inotify_union (a b : BitVec 32) :
    Gen.inotifyNewEventOp (a ||| b) = Gen.inotifyNewEventOp a ||| Gen.inotifyNewEventOp b := by
  simp only [Bridge.inotifyNewEventOp_eq]
  exact applyRules_or (by decide) a b

/-- housekeeping bits (`IN_ISDIR`, `IN_IGNORED`, `IN_UNMOUNT`, `IN_Q_OVERFLOW`, the control bits)
contribute no operation, alone or combined with anything -/
theorem inotify_housekeeping_silent (m h : BitVec 32)
    (hh : h &&& 0xfff#32 = 0#32) : Gen.inotifyNewEventOp (m ||| h) = Gen.inotifyNewEventOp m := by
  simp only [Bridge.inotifyNewEventOp_eq]
  exact applyRules_or_outside (by decide) hh m

end EventOp
