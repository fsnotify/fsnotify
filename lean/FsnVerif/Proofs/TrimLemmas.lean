import FsnVerif.Model.Decode
/-!
# `trimNul` (the model of `strings.TrimRight(name, "\x00")`) for every input

No NUL at the end of the result; the input is the result followed by NULs only (nothing else is cut); a name the
kernel padded comes back exactly.
-/
namespace Fsn

theorem trimNul_no_trailing_nul (bs : List Nat) : (trimNul bs).getLast? ≠ some 0 := by
  intro h
  have := List.head?_dropWhile_not (· == 0) bs.reverse
  rw [trimNul, List.getLast?_reverse] at h
  rw [h] at this
  cases this

theorem trimNul_prefix (bs : List Nat) : ∃ k, bs = trimNul bs ++ List.replicate k 0 := by
  refine ⟨(bs.reverse.takeWhile (· == 0)).length, ?_⟩
  have hz : bs.reverse.takeWhile (· == 0) = List.replicate (bs.reverse.takeWhile (· == 0)).length 0 :=
    List.eq_replicate_iff.mpr ⟨rfl, fun b hb => by simpa using List.all_eq_true.mp List.all_takeWhile b hb⟩
  rw [← List.reverse_replicate, ← hz, trimNul, ← List.reverse_append, List.takeWhile_append_dropWhile,
    List.reverse_reverse]

theorem trimNul_append_zeros (nm : List Nat) (k : Nat) (h : nm.getLast? ≠ some 0) :
    trimNul (nm ++ List.replicate k 0) = nm := by
  rw [trimNul, List.reverse_append, List.reverse_replicate,
    List.dropWhile_append_of_pos (by simp [List.mem_replicate])]
  -- nothing more is dropped: the first byte of `nm.reverse` is the last of `nm`
  cases hn : nm.reverse with
  | nil => simpa using hn
  | cons x xs =>
    have hx : x ≠ 0 := fun hx => h (by rw [List.getLast?_eq_head?_reverse, hn, hx]; rfl)
    rw [List.dropWhile_cons_of_neg (by simpa using hx), ← hn, List.reverse_reverse]

theorem trimNul_padName (nm : List Nat) (h : nm.getLast? ≠ some 0) : trimNul (padName nm) = nm := by
  unfold padName
  exact trimNul_append_zeros nm _ h

end Fsn
