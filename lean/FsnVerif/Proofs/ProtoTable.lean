import FsnVerif.Model.Proto
/-! The kernel-evaluated table over the 5632 core states of the protocol model (`decide +kernel`: the
quantifier is a finite table; lifted to all states in `ProtoLemmas`). -/
namespace Proto

/-- What is checked of one core state: if it satisfies the invariant, every enabled step keeps the
invariant, the strategy `next` brings the call to its return and — once the watcher is marked closed
and the file is closed — `nextExit` brings the reader to its exit. The three facts share one table
because a table of its own would pay again for enumerating the core and evaluating `Inv true s` on it (a third of
the whole; 4484 of the states fail it). The fuel is generous: 11 steps bring every state to the return, 7 to the exit. -/
def coreChk (s : S) : Bool :=
  !Inv true s ||
    (allLabels.all (fun l => match step true s l with | none => true | some s' => Inv true s') &&
     reach true 16 s &&
     (!(s.doneClosed && !s.fdOpen) || reachExit true 16 s))

theorem core_chk : core.all coreChk = true := by
  -- `step` is unfolded at each of the 36 labels first, once, with the state a variable: evaluated as it stands the
  -- kernel instantiates the whole body of `step` (one arm per label) at every one of the 1148 × 36 calls
  delta coreChk
  simp only [allLabels, List.all_cons, List.all_nil, step]
  decide +kernel

end Proto
