import FsnVerif.Generated.Tables
import FsnVerif.Model.Bits
import FsnVerif.Proofs.BitsLemmas
import FsnVerif.Proofs.BridgeEventOp
/-!
# Tie T (tables): regenerated definitions = hand-written table-form model

Every theorem here is about a definition that `tools/gotolean` re-emits from
`/repo`'s working tree on every run. A change to a flag table of a backend, to `xSupports`
or to the Windows translators breaks one of them (or a residue equality) at build time.
(`Op.Has` and the inotify event table: `BridgeEventOp`; `Op.String`: `BridgeString`; buffer sizes: `BridgeCaps`.)
-/
namespace Bridge
open Fsn

theorem inotifyRequest_eq (nf : Bool) (ops : BitVec 32) : Gen.inotifyRequest nf ops = Fsn.inotifyRequest nf ops := by
  -- the source starts the fold from the `noFollow` bit, the model ORs it in afterwards
  rw [Fsn.inotifyRequest, applyReq, ← foldl_or_acc]
  simp only [Gen.inotifyRequest, inotifyRequestRules, List.foldl, List.any, Bool.or_false, opHas_eq, BitVec.zero_or]
  rfl

theorem inotifyRequest_residue : Gen.inotifyRequest.residue = ["return w.register(path, flags, recurse)"] := rfl

theorem xSupportsInotify_eq (op : BitVec 32) : Gen.xSupportsInotify op = Fsn.xSupportsInotify op := rfl

theorem kqueueNewEventOp_eq (m : BitVec 32) : Gen.kqueueNewEventOp m = Fsn.kqueueNewEventOp m := by
  simp only [Gen.kqueueNewEventOp, Fsn.kqueueNewEventOp, dropWriteIfRemove, applyRules, kqueueRules, List.foldl,
    List.any, test, Bool.or_false, opHas_eq]
  rfl

theorem kqueueNewEventOp_residue : Gen.kqueueNewEventOp.residue = ["if linkName != \"\" { e.Name = linkName }"] := rfl

theorem noteAllEvents_eq : Gen.noteAllEvents = Fsn.noteAllEvents := by decide

theorem winNewEventOp_eq (m : BitVec 32) : Gen.winNewEventOp m = Fsn.winNewEventOp m := by
  simp only [Gen.winNewEventOp, Fsn.winNewEventOp, applyRules, winRules, List.foldl, List.any, test,
    Bool.or_false, Bool.or_assoc]
  rfl
theorem winNewEventOp_residue : Gen.winNewEventOp.residue = [] := rfl

theorem toWindowsFlags_eq (m : BitVec 64) : Gen.toWindowsFlags m = Fsn.toWindowsFlags m := by
  simp only [Gen.toWindowsFlags, Fsn.toWindowsFlags, BitVec.zero_or]
  rfl
theorem toFSnotifyFlags_eq (a : BitVec 32) : Gen.toFSnotifyFlags a = Fsn.toFSnotifyFlags a := rfl

/-- the three portable-only backends have one and the same `xSupports` body -/
theorem xSupportsKqueue_eq (op : BitVec 32) : Gen.xSupportsKqueue op = Fsn.xSupportsPortableOnly op := by
  have : unportableOps = ((0x20#32 ||| 0x40#32) ||| 0x80#32) ||| 0x100#32 := by decide
  simp only [Gen.xSupportsKqueue, opHas_eq, xSupportsPortableOnly, this, opHas_or_right]
  cases (opHas op 0x20#32 || opHas op 0x40#32 || opHas op 0x80#32 || opHas op 0x100#32) <;> rfl

theorem xSupportsWindows_eq (op : BitVec 32) : Gen.xSupportsWindows op = Fsn.xSupportsPortableOnly op :=
  xSupportsKqueue_eq op

theorem xSupportsFen_eq (op : BitVec 32) : Gen.xSupportsFen op = Fsn.xSupportsPortableOnly op :=
  xSupportsKqueue_eq op

theorem defaultOps_eq : Gen.defaultOps = Fsn.defaultOps := rfl

end Bridge
