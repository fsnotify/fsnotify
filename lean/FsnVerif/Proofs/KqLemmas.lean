import FsnVerif.Model.Kqueue
import FsnVerif.Proofs.ALLemmas
/-! The kqueue descriptor invariant: open descriptors = wd-table keys, preserved by add / remove /
Close; Close releases everything. -/
namespace Kq
open Fsn

structure KInv (s : KState) : Prop where
  open_sub : ∀ fd, fd ∈ s.openFds → ∃ w, alLookup fd s.wd = some w
  wd_open : ∀ fd w, alLookup fd s.wd = some w → fd ∈ s.openFds
  named : ∀ fd w, alLookup fd s.wd = some w → w.wd = fd ∧ alLookup w.name s.path = some fd

theorem inv_init : KInv {} := by constructor <;> simp [alLookup]

/-- adding a path that is not watched yet, with a descriptor the kernel just handed out -/
theorem KInv.addOk {s : KState} (h : KInv s) (p link : Path) (fd : Nat) (isDir : Bool)
    (hfresh : fd ∉ s.openFds)
    (hnew : ∀ fd' w, alLookup p s.path = some fd' → alLookup fd' s.wd = some w → False) :
    KInv (s.addOk p link fd isDir) := by
  refine ⟨fun fd' hfd' => ?_, fun fd' w hw => ?_, fun fd' w hw => ?_⟩
  · rcases List.mem_cons.mp hfd' with rfl | h1
    · exact ⟨_, alLookup_insert_same _ _ _⟩
    · by_cases he : fd' = fd
      · exact absurd (he ▸ h1) hfresh
      · exact (h.open_sub fd' h1).imp fun w hw => (alLookup_insert_other _ _ _ _ he).trans hw
  · rcases alLookup_insert_eq_some.mp hw with ⟨rfl, _⟩ | ⟨_, h2⟩
    · exact List.mem_cons_self
    · exact List.mem_cons_of_mem _ (h.wd_open fd' w h2)
  · show w.wd = fd' ∧ alLookup w.name (alInsert p fd s.path) = some fd'
    rcases alLookup_insert_eq_some.mp hw with ⟨rfl, rfl⟩ | ⟨_, h2⟩
    · exact ⟨rfl, alLookup_insert_same _ _ _⟩
    · obtain ⟨a, b⟩ := h.named fd' w h2
      exact ⟨a, (alLookup_insert_other _ _ _ _ fun (hh : w.name = p) => hnew fd' w (hh ▸ b) h2).trans b⟩

theorem rmOne_found {s : KState} {name : Path} {fd : Nat} {w : KW} (hp : alLookup name s.path = some fd)
    (hw : alLookup fd s.wd = some w) :
    s.rmOne name true = { (s.tblRemove fd name) with openFds := s.openFds.filter (· != fd) } := by
  simp only [KState.rmOne, hp, hw]; rfl

theorem rmOne_cases (s : KState) (name : Path) (ok : Bool) :
    s.rmOne name ok = s ∨ ∃ fd w, alLookup name s.path = some fd ∧ alLookup fd s.wd = some w ∧
      s.rmOne name ok = { (s.tblRemove fd name) with openFds := s.openFds.filter (· != fd) } := by
  cases hp : alLookup name s.path with
  | none => exact .inl (by simp only [KState.rmOne, hp])
  | some fd =>
    cases hw : alLookup fd s.wd with
    | none => exact .inl (by simp only [KState.rmOne, hp, hw])
    | some w =>
      cases ok with
      | false => exact .inl (by simp only [KState.rmOne, hp, hw]; rfl)
      | true => exact .inr ⟨fd, w, rfl, hw, rmOne_found hp hw⟩

theorem rmOne_entries {s : KState} (h : KInv s) (name : Path) (fd : Nat) (w : KW)
    (hw : alLookup fd (s.rmOne name true).wd = some w) : alLookup fd s.wd = some w ∧ w.name ≠ name := by
  have old : alLookup fd s.wd = some w := by
    rcases rmOne_cases s name true with e | ⟨_, _, _, _, e⟩ <;> rw [e] at hw
    · exact hw
    · exact (alLookup_erase_eq_some.mp hw).2
  -- an entry of that name is the one the two lookups find, and that one is erased
  refine ⟨old, fun he => ?_⟩
  rw [rmOne_found (he ▸ (h.named fd w old).2) old] at hw
  exact (alLookup_erase_eq_some.mp hw).1 rfl

theorem KInv.rmOne {s : KState} (h : KInv s) (name : Path) (ok : Bool) : KInv (s.rmOne name ok) := by
  rcases rmOne_cases s name ok with e | ⟨fd, w0, hp, hw0, e⟩ <;> rw [e]
  · exact h
  · refine ⟨fun fd' hfd' => ?_, fun fd' w hw => ?_, fun fd' w hw => ?_⟩
    · obtain ⟨h1, hne⟩ := List.mem_filter.mp hfd'
      exact (h.open_sub fd' h1).imp fun w hw => (alLookup_erase_other _ _ _ (by simpa using hne)).trans hw
    · obtain ⟨hne, h1⟩ := alLookup_erase_eq_some.mp hw
      exact List.mem_filter.mpr ⟨h.wd_open fd' w h1, by simpa using hne⟩
    · show w.wd = fd' ∧ alLookup w.name (alErase name s.path) = some fd'
      obtain ⟨hne, h1⟩ := alLookup_erase_eq_some.mp hw
      obtain ⟨a, b⟩ := h.named fd' w h1
      exact ⟨a, (alLookup_erase_other _ _ _ fun hh => by rw [hh, hp] at b; cases b; exact hne rfl).trans b⟩

/-- the loop of `Close` -/
theorem foldl_rmOne (ks : List Path) (s : KState) (h : KInv s) :
    KInv (ks.foldl (fun acc p => acc.rmOne p true) s) ∧
    ∀ fd w, alLookup fd (ks.foldl (fun acc p => acc.rmOne p true) s).wd = some w → alLookup fd s.wd = some w ∧ w.name ∉ ks := by
  induction ks generalizing s with
  | nil => exact ⟨h, fun _ _ hw => ⟨hw, by simp⟩⟩
  | cons k ks ih =>
    obtain ⟨hi, hn⟩ := ih _ (h.rmOne k true)
    refine ⟨hi, fun fd w hw => ?_⟩
    obtain ⟨a, b⟩ := hn fd w hw
    obtain ⟨a', b'⟩ := rmOne_entries h k fd w a
    exact ⟨a', by simp [b, b']⟩

/-- **Close releases every descriptor** (finding F4 repaired: `Close` uses the removal that does not
look at the closed flag) -/
theorem close_releases_all (s : KState) (h : KInv s) : (s.closeAll).openFds = [] := by
  unfold KState.closeAll
  obtain ⟨hi, hn⟩ := foldl_rmOne (s.path.map (·.1)) { s with closed := true } ⟨h.open_sub, h.wd_open, h.named⟩
  generalize List.foldl (fun (acc : KState) p => acc.rmOne p true) { s with closed := true } (s.path.map (·.1)) = fin at hi hn
  cases hl : fin.openFds with
  | nil => rfl
  | cons fd rest =>
    -- an open descriptor has an entry, an old one: listed under its name, which is none of the listed paths
    obtain ⟨w, hw⟩ := hi.open_sub fd (by rw [hl]; simp)
    obtain ⟨a, b⟩ := hn fd w hw
    exact absurd (mem_keys_of_lookup (h.named fd w a).2) b

end Kq
