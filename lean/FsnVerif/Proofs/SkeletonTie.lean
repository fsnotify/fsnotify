import FsnVerif.Proofs.SkeletonTieDefs
import FsnVerif.Proofs.SkeletonTieFns
/-! The skeleton tie apart from the per-function comparison (`SkeletonTieFns`): which functions there are, and the lists of
sends under the lock, closers, senders and `go` statements. -/
namespace SkeletonTie
open Skel

/-- protocol content: a lock, a send, a close, a syscall, a protocol call, a `go`: anything the `Skel.lite` view keeps
besides returns and the brackets of an `if` -/
def hasContent (ops : List SkOp) : Bool := (Skel.lite ops).any (fun o => o.kind != "ret" && o.kind != "ifBegin" && o.kind != "ifEnd")

/-- no function with protocol content was added to or removed from the three files; a new helper that only computes
is none of the protocol's business -/
theorem function_set_ok :
    (Gen.skeleton.filter (fun f => hasContent f.ops)).map (·.name) =
      (Expected.functions.filter (fun f => hasContent f.2)).map (·.1) := by
  -- by `rfl`: the kernel (and the elaborator) looks at `hasContent` only where the two lists differ
  have h : ((Gen.skeleton.map fun f => (f.name, f.ops)).filter (fun f => hasContent f.2)).map (·.1) =
      (Expected.functions.filter (fun f => hasContent f.2)).map (·.1) := by rfl
  rw [← h, List.filter_map, List.map_map]
  rfl

theorem sendsWhileLocked_ok : Gen.sendsWhileLocked = Expected.sendsWhileLocked := rfl
theorem closers_ok : Gen.closers = Expected.closers := rfl
theorem senders_ok : Gen.senders = Expected.senders := rfl
theorem goStmts_ok : Gen.goStmts = Expected.goStmts := rfl
/-- nothing calls `withCreate()` (fsnotify.go), the option under which `AddWith` would send an event itself -/
theorem withCreate_dead : Gen.withCreateCallers = [] := rfl

end SkeletonTie
