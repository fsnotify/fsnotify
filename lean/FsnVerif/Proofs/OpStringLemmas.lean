import FsnVerif.Proofs.BitsLemmas
/-! Lemmas for C16: `Op.String` written with a builder is a join, and a join can be parsed back. -/
namespace Fsn

theorem and_single {b : BitVec 32} (hb : isSingleBit b = true) (o : BitVec 32) :
    o &&& b = if opHas o b then b else 0#32 := by
  cases h : opHas o b
  · simpa [opHas] using h
  · simpa [opHas_single hb, test] using h

theorem joinBar_cons (n : List Char) (ns : List (List Char)) : joinBar (n :: ns) = n ++ ns.flatMap ('|' :: ·) := by
  induction ns generalizing n with
  | nil => exact (List.append_nil n).symm
  | cons m ns ih => exact congrArg (n ++ '|' :: ·) (ih m)

/-- writing `|name` for every name and cutting the first character (`b.String()[1:]`) is `strings.Join(names, "|")` -/
theorem drop_one_bars : ∀ ns : List (List Char), (ns.flatMap ('|' :: ·)).drop 1 = joinBar ns
  | [] => rfl
  | n :: ns => (joinBar_cons n ns).symm

def splitBar (s : List Char) : List (List Char) :=
  s.foldr (fun c acc => if c == '|' then [] :: acc else
    match acc with
    | [] => [[c]]
    | x :: xs => (c :: x) :: xs) [[]]

def lookupName (n : List Char) : BitVec 32 :=
  match opNameTable.find? (fun p => p.2 == n) with
  | some p => p.1
  | none => 0#32

def parseOps (s : List Char) : BitVec 32 :=
  (splitBar s).foldl (fun acc n => acc ||| lookupName n) 0#32

/-- a bar-free word in front of a text that opens a new field is a field of its own -/
theorem splitBar_word {n : List Char} (hn : '|' ∉ n) {s : List Char} {xs : List (List Char)}
    (hs : splitBar s = [] :: xs) : splitBar (n ++ s) = n :: xs := by
  induction n with
  | nil => exact hs
  | cons c n ih =>
    have hc : (c == '|') = false := by
      rw [beq_eq_false_iff_ne]; rintro rfl; exact hn (List.mem_cons_self ..)
    have := ih (fun h => hn (List.mem_cons_of_mem _ h))
    unfold splitBar at this ⊢
    simp only [List.cons_append, List.foldr_cons, this, hc]
    rfl

theorem splitBar_joinBar : ∀ {n : List Char} {ns : List (List Char)}, (∀ m ∈ n :: ns, '|' ∉ m) →
    splitBar (joinBar (n :: ns)) = n :: ns
  | n, [], h => (by simpa using splitBar_word (h n (List.mem_cons_self ..)) (s := []) rfl : splitBar n = [n])
  | n, m :: ns, h =>
    splitBar_word (h n (List.mem_cons_self ..)) (s := '|' :: joinBar (m :: ns))
      (congrArg ([] :: ·) (splitBar_joinBar fun k hk => h k (List.mem_cons_of_mem _ hk)))

theorem parseOps_opString {o : BitVec 32} (h : ∀ n ∈ opNames o, '|' ∉ n) :
    parseOps (opString o) = (opNames o).foldl (fun acc n => acc ||| lookupName n) 0#32 := by
  unfold opString
  generalize opNames o = ns at h ⊢
  match ns with
  | [] => decide
  | n :: ns => simp only [List.isEmpty_cons, Bool.false_eq_true, ↓reduceIte, parseOps, splitBar_joinBar h]

/-- looking up the names of the operations present, in a table of single bits whose names are found again,
gives the part of `o` that the table knows -/
theorem foldl_lookup_names (o : BitVec 32) (t : List (BitVec 32 × List Char))
    (ht : t.all (fun p => isSingleBit p.1 && lookupName p.2 == p.1) = true) (acc : BitVec 32) :
    (t.flatMap fun p => if opHas o p.1 then [p.2] else []).foldl (fun acc n => acc ||| lookupName n) acc =
      acc ||| (o &&& (t.map (·.1)).foldr (· ||| ·) 0#32) := by
  induction t generalizing acc with
  | nil => simp
  | cons p t ih =>
    simp only [List.all_cons, Bool.and_eq_true, beq_iff_eq] at ht
    simp only [List.flatMap_cons, List.foldl_append, List.map_cons, List.foldr_cons, BitVec.and_or_distrib_left,
      ih ht.2, and_single ht.1.1]
    cases opHas o p.1 <;> simp [ht.1.2, BitVec.or_assoc]

end Fsn
