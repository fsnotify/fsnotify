import FsnVerif.Model.Inotify
/-! The rename-cookie ring is a sliding window over the last ten stores (C11). -/
namespace Fsn

abbrev Slot := BitVec 32 × Path
def zeroSlot : Slot := (0#32, [])

/-- slots oldest first: the slot at `idx` is the next to be overwritten -/
def Ring.window (r : Ring) : List Slot := r.slots.drop r.idx ++ r.slots.take r.idx

def Ring.WF (r : Ring) : Prop := r.slots.length = 10 ∧ r.idx < 10

theorem Ring.empty_wf : Ring.empty.WF := by constructor <;> simp [Ring.empty]

theorem Ring.store_wf (r : Ring) (h : r.WF) (c : BitVec 32) (p : Path) : (r.store c p).WF := by
  obtain ⟨hl, hi⟩ := h
  constructor
  · simp [Ring.store, hl]
  · simp only [Ring.store]; split <;> omega

/-- overwriting the head of a rotation and rotating one further: the head leaves, the new value
arrives at the end (any list, any position in it) -/
theorem rotate_set {α : Type} {l : List α} {i : Nat} (h : i < l.length) (x : α) :
    (l.set i x).drop (i + 1) ++ (l.set i x).take (i + 1) = (l.drop i ++ l.take i).tail ++ [x] := by
  have hs : i < (l.set i x).length := by simpa using h
  rw [List.drop_set_of_lt (Nat.lt_succ_self i), List.take_succ_eq_append_getElem hs, List.getElem_set_self,
    List.take_set_of_le (Nat.le_refl i), List.drop_eq_getElem_cons h]
  simp only [List.cons_append, List.tail_cons, List.append_assoc]

theorem Ring.store_window (r : Ring) (h : r.WF) (c : BitVec 32) (p : Path) :
    (r.store c p).window = r.window.tail ++ [(c, p)] := by
  have hrot := rotate_set (h.1 ▸ h.2 : r.idx < r.slots.length) (c, p)
  simp only [Ring.window, Ring.store]
  split
  · -- the last slot was written: rotating by the whole length is rotating by nothing
    have hi : r.idx + 1 = (r.slots.set r.idx (c, p)).length := by
      have := h.1; have := h.2; rw [List.length_set]; omega
    rw [← hrot, hi, List.drop_length, List.take_length]
    simp
  · exact hrot

theorem Ring.window_length (r : Ring) (h : r.WF) : r.window.length = 10 := by
  obtain ⟨hl, hi⟩ := h
  simp [Ring.window, hl]; omega

/-- the ring after a history of stores (oldest first) -/
def ringOf (stores : List Slot) : Ring := stores.foldl (fun r s => r.store s.1 s.2) Ring.empty

theorem ringOf_wf (stores : List Slot) : (ringOf stores).WF := by
  unfold ringOf
  suffices ∀ r : Ring, r.WF → (stores.foldl (fun r s => r.store s.1 s.2) r).WF from this _ Ring.empty_wf
  induction stores with
  | nil => intro r h; exact h
  | cons s ss ih => intro r h; exact ih _ (Ring.store_wf r h _ _)

theorem ringOf_snoc (stores : List Slot) (s : Slot) : ringOf (stores ++ [s]) = (ringOf stores).store s.1 s.2 := by
  simp [ringOf, List.foldl_append]

theorem foldl_store_window (ss : List Slot) (r : Ring) (h : r.WF) :
    (ss.foldl (fun r s => r.store s.1 s.2) r).window = (r.window ++ ss).drop ss.length := by
  induction ss generalizing r with
  | nil => simp
  | cons s ss ih =>
    rw [List.foldl_cons, ih _ (Ring.store_wf r h _ _), Ring.store_window r h]
    have hl := Ring.window_length r h
    match hw : r.window, hl with
    | a :: t, _ => simp

/-- **window invariant**: after any number of stores the ten slots are exactly the last ten
stored (cookie, path) pairs (padded with the zero value while fewer than ten were stored) -/
theorem ring_is_window (stores : List Slot) :
    (ringOf stores).window = (List.replicate 10 zeroSlot ++ stores).drop stores.length :=
  foldl_store_window stores Ring.empty Ring.empty_wf

theorem Ring.find_of_unique (r : Ring) (c : BitVec 32) (p : Path) (hmem : (c, p) ∈ r.slots)
    (huniq : ∀ s ∈ r.slots, s.1 = c → s = (c, p)) : r.find c = p := by
  unfold Ring.find
  cases hf : r.slots.find? (fun s => s.1 == c) with
  | none => exact absurd (by simp) (List.find?_eq_none.mp hf _ hmem)
  | some s => rw [huniq s (List.mem_of_find?_eq_some hf) (by simpa using List.find?_some hf)]

theorem Ring.find_of_absent (r : Ring) (c : BitVec 32) (h : ∀ s ∈ r.slots, s.1 ≠ c) : r.find c = [] := by
  unfold Ring.find
  rw [List.find?_eq_none.mpr fun s hs => by simpa using h s hs]

theorem Ring.mem_window (r : Ring) (s : Slot) : s ∈ r.window ↔ s ∈ r.slots := by
  conv => rhs; rw [← List.take_append_drop r.idx r.slots]
  simp only [Ring.window, List.mem_append]
  exact Or.comm

end Fsn
